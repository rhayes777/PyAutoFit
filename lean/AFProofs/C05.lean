import AFProofs.Lemmas.SamplesConv
import AFProofs.Lemmas.SamplesMore
import AFProofs.Lemmas.SamplesReal
import AFProofs.C04

/-!
# C05 — reported samples are faithful to the likelihood

Subjects: the conversions of `AFModel/SamplesConv.lean` and the further conversions, weights and transformations
of a reported sample list of `AFModel/SamplesMore.lean`, all executed by the driver (`AFDriver/C05.lean`; the
second file through its queries `nautilus`, `ultranest`, `zeus`, `xform`).
`L` is the user's likelihood as a function of the parameter row, `prior` the summed log-prior of a row.
The samplers are black boxes: what they guarantee about their arrays is a hypothesis ("contract"
in the docstrings). Arithmetic is a parameter; the only facts used are stated as hypotheses
(`(a + b) − b = a`, `−½·(−2·a) = a`, `0 ≤ 1`, `0 ≤ exp x`, `<` a strict weak order) — they hold in exact
arithmetic; for IEEE doubles the first two hold up to rounding, which is what the correspondence
tolerates (`harness/c05.py`).
-/

namespace AF.C05
open AF AF.Samples

variable {V : Type}

/-- a sample carries the likelihood and the prior of its own parameter values -/
def Faithful (L prior : List V → V) (s : Sample V) : Prop := s.ll = L s.params ∧ s.lp = prior s.params

instance [DecidableEq V] (L prior : List V → V) (s : Sample V) : Decidable (Faithful L prior s) := by
  unfold Faithful; infer_instance

/-- **Posterior.** the reported log-posterior of every sample is its log-likelihood plus its log-prior -/
theorem posterior_def (o : SOps V) (s : Sample V) : s.post o = o.add s.ll s.lp := rfl

theorem posterior_of_faithful (o : SOps V) (L prior : List V → V) (s : Sample V) (h : Faithful L prior s) :
    s.post o = o.add (L s.params) (prior s.params) := by
  simp [Sample.post, h.1, h.2]

/-- **Weights (nested sampling).** every weight is `exp(·)`, hence non-negative -/
theorem weights_nonneg_dynesty (o : SOps V) (hexp : ∀ x, o.le o.zero (o.exp x) = true) (prior : List V → V)
    (samples : List (List V)) (logl logwt logz : List V) (ss : List (Sample V))
    (h : dynestyConv o prior samples logl logwt logz = some ss) : ∀ s ∈ ss, o.le o.zero s.w = true := by
  intro s hs
  obtain ⟨z, _, rfl⟩ := dynestyConv_eq_some h
  obtain ⟨x, _, hx⟩ := List.mem_map.1 (mem_fromLists hs).2.2.2
  exact hx ▸ hexp _

/-- **Weights (all other searches).** every weight is `1.0` -/
theorem weights_one (o : SOps V) (prior : List V → V) (s : Sample V) :
    (∀ cfg chain logp d t, s ∈ emceeConv cfg o prior chain logp d t → s.w = o.one) ∧
    (∀ pos cost, s ∈ pyswarmsConv o prior pos cost → s.w = o.one) ∧
    (∀ x p, s ∈ bfgsConv o prior x p → s.w = o.one) ∧
    (∀ hist lls, s ∈ bfgsHistConv o prior hist lls → s.w = o.one) ∧
    (∀ params posts, s ∈ drawerConv o prior params posts → s.w = o.one) := by
  have one : ∀ {ps ls qs n}, s ∈ fromLists ps ls qs (ones o n) → s.w = o.one :=
    fun h => List.eq_of_mem_replicate (mem_fromLists h).2.2.2
  exact ⟨fun _ _ _ _ _ => one, fun _ _ => one, fun _ _ => one, fun _ _ => one, fun _ _ => one⟩

theorem weights_nonneg_others (o : SOps V) (h1 : o.le o.zero o.one = true) (prior : List V → V) (s : Sample V) :
    (∀ cfg chain logp d t, s ∈ emceeConv cfg o prior chain logp d t → o.le o.zero s.w = true) ∧
    (∀ pos cost, s ∈ pyswarmsConv o prior pos cost → o.le o.zero s.w = true) ∧
    (∀ x p, s ∈ bfgsConv o prior x p → o.le o.zero s.w = true) ∧
    (∀ hist lls, s ∈ bfgsHistConv o prior hist lls → o.le o.zero s.w = true) ∧
    (∀ params posts, s ∈ drawerConv o prior params posts → o.le o.zero s.w = true) := by
  obtain ⟨a, b, c, d, e⟩ := weights_one o prior s
  exact ⟨fun _ _ _ _ _ h => (a _ _ _ _ _ h).symm ▸ h1, fun _ _ h => (b _ _ h).symm ▸ h1,
    fun _ _ h => (c _ _ h).symm ▸ h1, fun _ _ h => (d _ _ h).symm ▸ h1, fun _ _ h => (e _ _ h).symm ▸ h1⟩

/-- **Dynesty.** contract: `results.logl[i]` is the likelihood of `results.samples[i]`. Then every reported
sample is faithful (whatever the weights), and with one weight per row no row is lost or reordered. -/
theorem dynesty_faithful (o : SOps V) (L prior : List V → V) (samples : List (List V)) (logwt logz : List V)
    (ss : List (Sample V)) (h : dynestyConv o prior samples (samples.map L) logwt logz = some ss) :
    (∀ s ∈ ss, Faithful L prior s ∧ s.params ∈ samples) ∧
    (logwt.length = samples.length → ss.map (·.params) = samples) := by
  obtain ⟨z, _, rfl⟩ := dynestyConv_eq_some h
  have := fromLists_rows L prior samples (logwt.map fun x => o.exp (o.sub x z))
  exact ⟨this.1, fun hl => this.2 (by rw [List.length_map, hl])⟩

/-- **Emcee, repaired slice.** contract: `log_prob[s][w]` is the posterior
`L + prior` of `chain[s][w]`. For every `discard`, `thin` and chain shape, the reported list is exactly the
thinned, step-major flattened chain, each row with its own likelihood, its own prior and weight 1. -/
theorem emcee_faithful (o : SOps V) (L prior : List V → V) (hsub : ∀ a b, o.sub (o.add a b) b = a)
    (chain : List (List (List V))) (discard thin : Nat) :
    emceeConv { emceeSameSlice := true } o prior chain
        (chain.map (List.map (fun r => o.add (L r) (prior r)))) discard thin
      = (thinSteps discard thin chain).flatten.map (fun r => ⟨r, L r, prior r, o.one⟩) := by
  simp only [emceeConv, if_true, thinSteps, pySliceStep_map, ← List.map_flatten]
  exact conv_of_posts o L prior hsub _

/-- … hence every reported sample is faithful and is a row of a step the sampler actually took -/
theorem emcee_faithful_mem (o : SOps V) (L prior : List V → V) (hsub : ∀ a b, o.sub (o.add a b) b = a)
    (chain : List (List (List V))) (discard thin : Nat) (s : Sample V)
    (hs : s ∈ emceeConv { emceeSameSlice := true } o prior chain
        (chain.map (List.map (fun r => o.add (L r) (prior r)))) discard thin) :
    Faithful L prior s ∧ ∃ step ∈ chain, s.params ∈ step := by
  rw [emcee_faithful o L prior hsub] at hs
  obtain ⟨hf, hr⟩ := mem_map_rows L prior o.one hs
  obtain ⟨step, hstep, hrs⟩ := List.mem_flatten.1 hr
  exact ⟨hf, step, (pySliceStep_sublist _ thin chain).subset hstep, hrs⟩

/-! the pinned commit (`emceeSameSlice = false`: `get_log_prob(flat=True)[-n-1:-1]`) -/

def intOps : SOps Int where
  add := (· + ·)
  sub := (· - ·)
  negHalf := fun x => -x / 2
  exp := fun _ => 1
  zero := 0
  one := 1
  lt := fun a b => decide (a < b)
  le := fun a b => decide (a ≤ b)

def wL : List Int → Int := fun r => r.headD 0
def wPrior : List Int → Int := fun _ => 0
/-- 2 steps × 2 walkers × 1 parameter -/
def wChain : List (List (List Int)) := [[[0], [1]], [[2], [3]]]

/-- **Emcee, pinned slice: refuted.** 2 steps × 2 walkers, `discard = 1`, `thin = 1`, log-probabilities
satisfying the contract: the row `[2]` is reported with likelihood 1. -/
theorem emcee_refuted_when_flag_off :
    ∃ s ∈ emceeConv { emceeSameSlice := false } intOps wPrior wChain
        (wChain.map (List.map (fun r => intOps.add (wL r) (wPrior r)))) 1 1,
      ¬ Faithful wL wPrior s := by
  refine ⟨⟨[2], 1, 0, 1⟩, by decide +kernel, by decide +kernel⟩

/-- without burn-in and thinning the pinned slice is still faithful on this chain (only the last row is lost):
the defect needs `discard > 0` or `thin > 1`, which is every real run (`discard = 3τ`) -/
example : emceeConv { emceeSameSlice := false } intOps wPrior wChain
    (wChain.map (List.map (fun r => intOps.add (wL r) (wPrior r)))) 0 1
    = [⟨[0], 0, 0, 1⟩, ⟨[1], 1, 0, 1⟩, ⟨[2], 2, 0, 1⟩] := by decide +kernel

example : emceeConv { emceeSameSlice := true } intOps wPrior wChain
    (wChain.map (List.map (fun r => intOps.add (wL r) (wPrior r)))) 1 1
    = [⟨[2], 2, 0, 1⟩, ⟨[3], 3, 0, 1⟩] := by decide +kernel

/-- **PySwarms, what does hold.** one sample per iteration; its parameters are those of
*particle 0* of that iteration and its reported log-posterior is `−½·cost_history[k]`, i.e. (pyswarms'
contract) the best posterior found by *any* particle up to iteration `k` — not the posterior of the
reported parameters. -/
theorem pyswarms_partial (o : SOps V) (hadd : ∀ a b, o.add (o.sub a b) b = a) (prior : List V → V)
    (pos : List (List (List V))) (cost : List V) (hl : cost.length = pos.length) (hne : ∀ it ∈ pos, it ≠ []) :
    (pyswarmsConv o prior pos cost).map (·.post o) = cost.map o.negHalf ∧
    (pyswarmsConv o prior pos cost).map (·.params) = pos.filterMap List.head? := by
  have hfirst : (pos.filterMap List.head?).length = pos.length := by
    rw [filterMap_eq_map_of_some (g := (·.headD [])) fun
      | [], h => absurd rfl (hne _ h)
      | _ :: _, _ => rfl, List.length_map]
  have hflat := length_le_flatten pos hne
  have hls : (subZip o (cost.map o.negHalf) (pos.flatten.map prior)).length = pos.length := by
    rw [subZip, List.length_zipWith, List.length_map, List.length_map, hl]
    exact Nat.min_eq_left hflat
  have hp : (pyswarmsConv o prior pos cost).map (·.params) = pos.filterMap List.head? :=
    map_params_fromLists _ _ _ _ (by rw [hfirst, hls])
      (by rw [hfirst, List.length_map]; exact hflat)
      (by rw [hfirst, ones, List.length_replicate, hls])
  have hlen : ((pyswarmsConv o prior pos cost).map (·.post o)).length = (cost.map o.negHalf).length := by
    rw [List.length_map, ← List.length_map (f := (·.params)), hp, hfirst, List.length_map, hl]
  exact ⟨(map_post_fromLists_prefix o hadd _ _ _ _).eq_of_length hlen, hp⟩

def wPos : List (List (List Int)) := [[[0], [5]], [[1], [7]]]
def wSwarmL : List Int → Int := fun r => -(r.headD 0 * r.headD 0)

/-- the pyswarms contract on `cost_history`: entry `k` is the smallest `−2·posterior` over all particles of
iterations `≤ k` (and is attained) -/
def swarmContract (post : List Int → Int) (pos : List (List (List Int))) (cost : List Int) : Bool :=
  cost.length == pos.length && (List.range cost.length).all fun k =>
    let seen := (pos.take (k + 1)).flatten.map (fun r => -2 * post r)
    seen.contains (cost.getD k 0) && seen.all (fun c => decide (cost.getD k 0 ≤ c))

/-- **PySwarms: refuted.** 2 iterations × 2 particles, a cost history satisfying the contract: the second
sample `[1]` is reported with likelihood 0, its likelihood is −1. Recorded as known finding
`C05-pyswarms-best-cost-vs-particle0`. -/
theorem pyswarms_refuted :
    swarmContract (fun r => wSwarmL r + wPrior r) wPos [0, 0] = true ∧
    ∃ s ∈ pyswarmsConv intOps wPrior wPos [0, 0], ¬ Faithful wSwarmL wPrior s := by
  refine ⟨by decide +kernel, ⟨[1], 0, 0, 1⟩, by decide +kernel, by decide +kernel⟩

/-- **BFGS, L-BFGS (default).** the single reported sample is the final point with the likelihood the
model yields there: `Fitness` (C04, posterior mode, χ² conversion — the flags BFGS passes) returns
`−2·(ll + Σ priors)`, the search stores `−½` of it and the conversion subtracts the prior. -/
theorem lbfgs_faithful (o : SOps V) (fo : FomOps V) (g : List V → Except GateErr (Inst V)) (lp : List V → List V)
    (resample : V) (x : List V) (i : Inst V) (ll p : V) (hg : g x = .ok i)
    (hhalf : ∀ a, o.negHalf (fo.mulNeg2 a) = a) (hsub : ∀ a b, o.sub (fo.add a b) b = a)
    (hp : bfgsLogPost o fo g lp resample x (.fin ll) = some p) :
    bfgsConv o (fun v => pySum fo (lp v)) x p = [⟨x, ll, pySum fo (lp x), o.one⟩] := by
  have hv := C04.fom_on_success fo
    { fomIsLL := false, convertChi := true, storeHistory := false, resample := resample } g lp {} x i ll hg
  rw [bfgsLogPost, hv] at hp
  obtain rfl := Option.some.inj hp
  show [Sample.mk x (o.sub (o.negHalf (fo.mulNeg2 (fo.add ll (pySum fo (lp x))))) (pySum fo (lp x))) _ o.one] = _
  rw [hhalf, hsub]

/-- **BFGS with `visualize=True`.** the reported samples are the `Fitness` history: for every sequence of
calls whose likelihood outcome is a function `L` of the vector, every reported sample is faithful. -/
theorem bfgs_history_faithful [Inhabited V] (o : SOps V) (fo : FomOps V) (cfg : FitCfg V)
    (g : List V → Except GateErr (Inst V)) (lp : List V → List V) (L prior : List V → V)
    (calls : List (List V × Outcome V)) (hc : ∀ c ∈ calls, c.2 = .fin (L c.1)) (hh : cfg.storeHistory = true) :
    let st := (runCalls fo cfg g lp {} calls).2
    bfgsHistConv o prior st.params st.lls
      = ((calls.filter (succeeded g)).map (·.1)).map (fun r => ⟨r, L r, prior r, o.one⟩) := by
  have h := C04.history_exact fo cfg g lp calls {}
  simp only [hh, if_true] at h
  have hlls : (calls.filter (succeeded g)).map llOf = ((calls.filter (succeeded g)).map (·.1)).map L := by
    rw [List.map_map]
    exact List.map_congr_left fun c hcm => by rw [llOf, hc c (List.mem_filter.1 hcm).1]; rfl
  simp only [bfgsHistConv, h.1, h.2, List.nil_append, hlls, ones_length_map]
  exact fromLists_map L prior (fun _ => o.one) _

/-- **Drawer.** contract: `log_posterior_list[i]` is `L + prior` of `parameter_lists[i]` (what the
initializer returns when its pool is order preserving, see `init_faithful_when_ordered`). -/
theorem drawer_faithful (o : SOps V) (L prior : List V → V) (hsub : ∀ a b, o.sub (o.add a b) b = a)
    (params : List (List V)) :
    drawerConv o prior params (params.map (fun r => o.add (L r) (prior r)))
      = params.map (fun r => ⟨r, L r, prior r, o.one⟩) :=
  conv_of_posts o L prior hsub params

/-- **Initializer, order-preserving pool.** when the results of a batch arrive in submission order
(`order = 0,1,…`: C14's property of the pool), every accepted point is paired with its own figure of merit. -/
theorem init_faithful_when_ordered (F : List V → Option V) (inputs : List (List V)) :
    ∀ pf ∈ initBatch inputs (inputs.map F) (List.range (inputs.map F).length), F pf.1 = some pf.2 := by
  intro pf h
  rw [initBatch, range_map_getElem?_join] at h
  obtain ⟨⟨f, inp⟩, hmem, hf⟩ := List.mem_filterMap.1 h
  have hz : (inputs.map F).zip inputs = inputs.map (fun r => (F r, r)) := by
    simpa using List.zip_map' (f := F) (g := id) (l := inputs)
  obtain ⟨r, _, hr⟩ := List.mem_map.1 (hz ▸ hmem)
  obtain ⟨rfl, rfl⟩ := Prod.mk.inj hr
  obtain ⟨x, hx, rfl⟩ := Option.map_eq_some_iff.1 hf
  exact hx

/-- **Initializer, arrival order: refuted.** two inputs whose results arrive swapped are paired with each
other's figure of merit (multi-core fits; known finding `C05-multicore-initializer-order`, root cause C14). -/
theorem init_refuted_when_unordered :
    ∃ pf ∈ initBatch [[1], [2]] ([[1], [2]].map (fun r : List Int => some (r.headD 0 * 10))) [1, 0],
      (fun r : List Int => some (r.headD 0 * 10)) pf.1 ≠ some pf.2 :=
  ⟨([1], 20), by decide +kernel, by decide +kernel⟩

/-- **Best fit is the first maximum.** for `<` a strict weak order (no NaN among the likelihoods): the
sample returned by `max_log_likelihood_sample` is in the list, no sample has a larger likelihood, and every
earlier sample has a strictly smaller one. -/
theorem best_is_first_max (o : SOps V)
    (htr : ∀ a b c, o.lt a b = true → o.lt b c = true → o.lt a c = true)
    (hnt : ∀ a b c, o.lt a c = true → o.lt a b = true ∨ o.lt b c = true)
    (ss : List (Sample V)) (b : Sample V) (h : maxSample o ss = some b) :
    ∃ pre post, ss = pre ++ b :: post ∧ (∀ s ∈ pre, o.lt s.ll b.ll = true) ∧
      (∀ s ∈ post, o.lt b.ll s.ll = false) := by
  rw [maxSample_eq_pickFirst] at h
  exact pickFirst_first_max o.lt (·.ll) htr hnt ss b h

/-- **Best-fit likelihood is the maximum over the samples** (`result.log_likelihood`) -/
theorem best_is_max (o : SOps V) (hirr : ∀ a, o.lt a a = false)
    (htr : ∀ a b c, o.lt a b = true → o.lt b c = true → o.lt a c = true)
    (hnt : ∀ a b c, o.lt a c = true → o.lt a b = true ∨ o.lt b c = true)
    (ss : List (Sample V)) (m : V) (h : bestLL o ss = some m) :
    (∃ s ∈ ss, s.ll = m) ∧ ∀ s ∈ ss, o.lt m s.ll = false := by
  obtain ⟨b, hb, rfl⟩ := Option.map_eq_some_iff.1 h
  obtain ⟨pre, post, rfl, hpre, hpost⟩ := best_is_first_max o htr hnt ss b hb
  refine ⟨⟨b, List.mem_append_right _ List.mem_cons_self, rfl⟩, fun s hs => ?_⟩
  rcases List.mem_append.1 hs with hs | hs
  · -- an earlier sample is strictly smaller: `b < s` would give `s < s`
    exact Bool.eq_false_iff.2 fun hlt => Bool.false_ne_true ((hirr s.ll).symm.trans (htr _ _ _ (hpre s hs) hlt))
  · rcases List.mem_cons.1 hs with rfl | hs
    · exact hirr _
    · exact hpost s hs

theorem best_exists_iff (o : SOps V) (ss : List (Sample V)) : maxSample o ss = none ↔ ss = [] := by
  rw [maxSample_eq_pickFirst]
  exact pickFirst_none_iff _ ss

/-- **Best-fit instance.** `result.instance` is the instance the model builds (C01: `instFromVector`) from the
parameter values of the maximising sample: the values are stored under `unique_prior_paths`, read back
through `all_paths`, and come back as the same vector — for every composition whose places are visited once
by the walk (attribute names are dictionary keys), shared parameters included. -/
theorem best_instance [Inhabited V] (ops : Ops V) (o : SOps V) (t : Node V) (ss : List (Sample V)) (b : Sample V)
    (hnd : ((walk t).map (·.1)).Nodup) (hb : maxSample o ss = some b) (hl : b.params.length = count t) :
    bestInstance ops o t ss = some (instFromVector ops t b.params) :=
  bestInstance_of_keysOK ops o t ss b (keysOK_of_distinct_places t hnd) hb hl

/-- the same under the executable guard `keysOK` that the driver evaluates on every composition it is sent
(the harness checks that it answers `true`) -/
theorem best_instance_of_guard [Inhabited V] (ops : Ops V) (o : SOps V) (t : Node V) (ss : List (Sample V))
    (b : Sample V) (hk : keysOK t = true) (hb : maxSample o ss = some b) (hl : b.params.length = count t) :
    bestInstance ops o t ss = some (instFromVector ops t b.params) :=
  bestInstance_of_keysOK ops o t ss b (keysOK_spec t hk) hb hl

/-- every sample of every conversion, not only the best one, gives back its own vector -/
theorem sample_vector_roundtrip (t : Node V) (s : Sample V) (hnd : ((walk t).map (·.1)).Nodup)
    (hl : s.params.length = count t) : vectorOfSample t s = some s.params :=
  vectorOfSample_of_keysOK t s (keysOK_of_distinct_places t hnd) hl

/-! ## non-vacuity -/

def wSamples : List (Sample Int) := [⟨[1], -5, 0, 1⟩, ⟨[2], 3, 0, 1⟩, ⟨[3], 3, 0, 1⟩, ⟨[4], -1, 0, 1⟩]

example : maxSample intOps wSamples = some ⟨[2], 3, 0, 1⟩ := by decide +kernel
example : bestLL intOps wSamples = some 3 := by decide +kernel
example : ∀ a b c : Int, intOps.lt a c = true → intOps.lt a b = true ∨ intOps.lt b c = true := by
  intro a b c
  simp only [intOps, decide_eq_true_eq]
  omega

/-- a shared parameter (two places, one key) and a nested one -/
def wModel : Node Int :=
  .coll [("g", .model "P2" ["a", "b"] [("a", .prior 7), ("b", .prior 3)]),
         ("h", .model "P1" ["a"] [("a", .prior 7)])]

example : keysOK wModel = true := by decide +kernel
example : ((walk wModel).map (·.1)).Nodup := by decide +kernel
example : uniquePaths wModel = [["g", "b"], ["h", "a"]] := by decide +kernel
example : allPaths wModel = [[["g", "b"]], [["g", "a"], ["h", "a"]]] := by decide +kernel
example : vectorOfSample wModel ⟨[10, 20], 0, 0, 1⟩ = some [10, 20] := by decide +kernel

example : dynestyConv intOps wPrior [[1], [2]] ([[1], [2]].map wL) [0, 0] [5, 6]
    = some [⟨[1], 1, 0, 1⟩, ⟨[2], 2, 0, 1⟩] := by decide +kernel

example : initBatch [[1], [2]] [some 10, none] [0, 1] = [([1], (10 : Int))] := by decide +kernel

/-- **Nautilus.** contract: `posterior()` returns `log_l[i]` = the likelihood of `points[i]`. -/
theorem nautilus_faithful (o : SOps V) (L prior : List V → V) (points : List (List V)) (logw : List V) :
    (∀ s ∈ nautilusConv o prior points logw (points.map L), Faithful L prior s ∧ s.params ∈ points) ∧
    (logw.length = points.length →
      (nautilusConv o prior points logw (points.map L)).map (·.params) = points) := by
  have := fromLists_rows L prior points (logw.map o.exp)
  exact ⟨this.1, fun hl => this.2 (by rw [List.length_map, hl])⟩

/-- **UltraNest.** contract: `weighted_samples["logl"][i]` is the likelihood of `weighted_samples["points"][i]`. -/
theorem ultranest_faithful (L prior : List V → V) (points : List (List V)) (weights : List V) :
    (∀ s ∈ ultranestConv prior points (points.map L) weights, Faithful L prior s ∧ s.params ∈ points) ∧
    (weights.length = points.length →
      (ultranestConv prior points (points.map L) weights).map (·.params) = points) :=
  fromLists_rows L prior points weights

example : nautilusConv intOps wPrior [[1], [2]] [0, 0] ([[1], [2]].map wL) = [⟨[1], 1, 0, 1⟩, ⟨[2], 2, 0, 1⟩] := by
  decide +kernel
example : ultranestConv wPrior [[1], [2]] ([[1], [2]].map wL) [3, 4] = [⟨[1], 1, 0, 3⟩, ⟨[2], 2, 0, 4⟩] := by
  decide +kernel

/-- **Weights (Nautilus)** are `exp(·)`, hence non-negative -/
theorem weights_nonneg_nautilus (o : SOps V) (hexp : ∀ x, o.le o.zero (o.exp x) = true) (prior : List V → V)
    (points : List (List V)) (logw logl : List V) :
    ∀ s ∈ nautilusConv o prior points logw logl, o.le o.zero s.w = true := by
  intro s hs
  obtain ⟨x, _, hx⟩ := List.mem_map.1 (mem_fromLists hs).2.2.2
  exact hx ▸ hexp _

/-- **Weights (UltraNest)** are the sampler's own (contract: non-negative), handed on unchanged -/
theorem weights_nonneg_ultranest (o : SOps V) (prior : List V → V) (points : List (List V)) (logl weights : List V)
    (hw : ∀ w ∈ weights, o.le o.zero w = true) :
    ∀ s ∈ ultranestConv prior points logl weights, o.le o.zero s.w = true :=
  fun _ hs => hw _ (mem_fromLists hs).2.2.2

/-- **Zeus, repaired slice.** contract: `get_log_prob()[s][w]` is the posterior `L + prior` of
`get_chain()[s][w]`, and `flat=True` reshapes both arrays in the same order (`hnat`: the flattening of the
log-probabilities is the flattening of the rows, entry by entry). -/
theorem zeus_faithful (o : SOps V) (L prior : List V → V) (hsub : ∀ a b, o.sub (o.add a b) b = a)
    (flatP : List (List (List V)) → List (List V)) (flatL : List (List V) → List V)
    (hnat : ∀ (f : List V → V) (m : List (List (List V))), flatL (m.map (List.map f)) = (flatP m).map f)
    (chain : List (List (List V))) (discard thin : Nat) :
    zeusConv { zeusSameSlice := true } o prior flatP flatL chain
        (chain.map (List.map (fun r => o.add (L r) (prior r)))) discard thin
      = (flatP (zeusSlice discard thin chain)).map (fun r => ⟨r, L r, prior r, o.one⟩) := by
  simp only [zeusConv, if_true, zeusSlice, pySliceStep_map, hnat]
  exact conv_of_posts o L prior hsub _

/-- the two flattenings the driver runs (step-major = `order='C'`, walker-major = `order='F'`) satisfy `hnat` -/
theorem zeus_flattenings_natural (w : Nat) (f : List V → V) (m : List (List (List V))) :
    List.flatten (m.map (List.map f)) = (List.flatten m).map f ∧
    walkerMajor w (m.map (List.map f)) = (walkerMajor w m).map f :=
  ⟨List.map_flatten.symm, walkerMajor_map f w m⟩

/-- … hence, in either order, every reported sample is faithful and is a row of a step the sampler took -/
theorem zeus_faithful_mem (o : SOps V) (L prior : List V → V) (hsub : ∀ a b, o.sub (o.add a b) b = a)
    (chain : List (List (List V))) (discard thin : Nat) (s : Sample V)
    (hs : s ∈ zeusConv { zeusSameSlice := true } o prior List.flatten List.flatten chain
        (chain.map (List.map (fun r => o.add (L r) (prior r)))) discard thin) :
    Faithful L prior s ∧ ∃ step ∈ chain, s.params ∈ step := by
  rw [zeus_faithful o L prior hsub List.flatten List.flatten (fun _ _ => List.map_flatten.symm)] at hs
  obtain ⟨hf, hr⟩ := mem_map_rows L prior o.one hs
  obtain ⟨step, hstep, hrs⟩ := List.mem_flatten.1 hr
  exact ⟨hf, step, (pySliceStep_sublist discard thin chain).subset hstep, hrs⟩

theorem zeus_faithful_walker_major (o : SOps V) (L prior : List V → V) (hsub : ∀ a b, o.sub (o.add a b) b = a)
    (w : Nat) (chain : List (List (List V))) (discard thin : Nat) :
    ∀ s ∈ zeusConv { zeusSameSlice := true } o prior (walkerMajor w) (walkerMajor w) chain
        (chain.map (List.map (fun r => o.add (L r) (prior r)))) discard thin, Faithful L prior s := by
  intro s hs
  rw [zeus_faithful o L prior hsub (walkerMajor w) (walkerMajor w) (fun f m => walkerMajor_map f w m)] at hs
  exact (mem_map_rows L prior o.one hs).1

/-- **Zeus, pinned commit: refuted.** `get_log_prob(flat=True)` without `discard`/`thin`: 2 steps × 2 walkers,
`discard = 1`, `thin = 1`, log-probabilities satisfying the contract: the row `[2]` is reported with
likelihood 0 (repaired by `fixes/C05-zeus-log-prob-same-slice.patch`). -/
theorem zeus_refuted_when_flag_off :
    ∃ s ∈ zeusConv { zeusSameSlice := false } intOps wPrior List.flatten List.flatten wChain
        (wChain.map (List.map (fun r => intOps.add (wL r) (wPrior r)))) 1 1,
      ¬ Faithful wL wPrior s := by
  refine ⟨⟨[2], 0, 0, 1⟩, by decide +kernel, by decide +kernel⟩

example : zeusConv { zeusSameSlice := true } intOps wPrior List.flatten List.flatten wChain
    (wChain.map (List.map (fun r => intOps.add (wL r) (wPrior r)))) 1 1
    = [⟨[2], 2, 0, 1⟩, ⟨[3], 3, 0, 1⟩] := by decide +kernel
/-- walker-major: walker 0 of every kept step first -/
example : zeusConv { zeusSameSlice := true } intOps wPrior (walkerMajor 2) (walkerMajor 2) wChain
    (wChain.map (List.map (fun r => intOps.add (wL r) (wPrior r)))) 0 1
    = [⟨[0], 0, 0, 1⟩, ⟨[2], 2, 0, 1⟩, ⟨[1], 1, 0, 1⟩, ⟨[3], 3, 0, 1⟩] := by decide +kernel

/-- **Dynesty weights are normalised.** over the reals, with one row, likelihood and weight per sample and
dynesty's contract `logz[-1] = log Σ exp(logwt)`: the reported weights `exp(logwt − logz[-1])` sum to 1. -/
theorem dynesty_weights_sum_one (prior : List ℝ → ℝ) (samples : List (List ℝ)) (logl logwt logz : List ℝ) (z : ℝ)
    (ss : List (Sample ℝ)) (h1 : samples.length = logwt.length) (h2 : logl.length = logwt.length)
    (hz : logz.getLast? = some z) (hnorm : Real.exp z = (logwt.map Real.exp).sum)
    (h : dynestyConv realSOps prior samples logl logwt logz = some ss) : weightSum realSOps ss = 1 := by
  obtain ⟨z', hz', rfl⟩ := dynestyConv_eq_some h
  obtain rfl : z' = z := Option.some.inj (hz'.symm.trans hz)
  rw [weightSum_real, map_w_fromLists _ _ _ _ (by simp [h1]) (by simp [h2]) (by simp [h1])]
  show (logwt.map (fun x => Real.exp (x - z'))).sum = 1
  rw [sum_exp_sub, ← hnorm, div_self (Real.exp_ne_zero z')]

/-- **Nautilus weights are normalised** when `posterior()` returns normalised log-weights (its contract) -/
theorem nautilus_weights_sum_one (prior : List ℝ → ℝ) (points : List (List ℝ)) (logw logl : List ℝ)
    (h1 : points.length = logw.length) (h2 : logl.length = logw.length) (hnorm : (logw.map Real.exp).sum = 1) :
    weightSum realSOps (nautilusConv realSOps prior points logw logl) = 1 := by
  rw [weightSum_real, nautilusConv, map_w_fromLists _ _ _ _ (by simp [h1]) (by simp [h2]) (by simp [h1])]
  exact hnorm

/-- **UltraNest weights** sum to whatever the sampler's weights sum to (1 by its contract) -/
theorem ultranest_weights_sum (prior : List ℝ → ℝ) (points : List (List ℝ)) (logl weights : List ℝ)
    (h1 : points.length = weights.length) (h2 : logl.length = weights.length) :
    weightSum realSOps (ultranestConv prior points logl weights) = weights.sum := by
  rw [weightSum_real, ultranestConv, map_w_fromLists _ _ _ _ (by omega) (by omega) (by simp [h1])]

/-- **Uniform weights** (MCMC, optimisers, Drawer: every weight 1) sum to the number of samples -/
theorem uniform_weights_sum (ss : List (Sample ℝ)) (h : ∀ s ∈ ss, s.w = 1) : weightSum realSOps ss = ss.length := by
  have hw : ss.map (·.w) = List.replicate ss.length 1 :=
    List.eq_replicate_iff.2 ⟨List.length_map _, fun w hw => by
      obtain ⟨s, hs, rfl⟩ := List.mem_map.1 hw
      exact h s hs⟩
  rw [weightSum_real, hw, List.sum_replicate, nsmul_one]

example : weightSum intOps [⟨[1], 0, 0, 2⟩, ⟨[2], 0, 0, 3⟩] = 5 := by decide +kernel
/-- the hypotheses of `dynesty_weights_sum_one` are satisfiable: one sample, `logz = [logwt]` -/
example : weightSum realSOps ((dynestyConv realSOps (fun _ => 0) [[1]] [2] [3] [3]).getD []) = 1 :=
  dynesty_weights_sum_one (fun _ => 0) [[1]] [2] [3] [3] 3 _ rfl rfl rfl (by simp) rfl

/-- **Threshold.** `samples_above_weight_threshold_from` keeps, in order and untouched, exactly the samples
whose weight exceeds the threshold -/
theorem threshold_keeps (o : SOps V) (thr : V) (ss : List (Sample V)) :
    (aboveThreshold o thr ss).Sublist ss ∧
    ∀ s, s ∈ aboveThreshold o thr ss ↔ s ∈ ss ∧ o.lt thr s.w = true :=
  ⟨List.filter_sublist, fun _ => List.mem_filter⟩

/-- … and when the best-fit sample passes the threshold it is still the best fit (same sample, not only the same
likelihood) -/
theorem threshold_keeps_best (o : SOps V)
    (htr : ∀ a b c, o.lt a b = true → o.lt b c = true → o.lt a c = true)
    (hnt : ∀ a b c, o.lt a c = true → o.lt a b = true ∨ o.lt b c = true)
    (thr : V) (ss : List (Sample V)) (b : Sample V) (hb : maxSample o ss = some b) (hw : o.lt thr b.w = true) :
    maxSample o (aboveThreshold o thr ss) = some b := by
  obtain ⟨pre, post, rfl, hpre, hpost⟩ := best_is_first_max o htr hnt ss b hb
  rw [maxSample_eq_pickFirst, aboveThreshold, List.filter_append,
    List.filter_cons_of_pos (p := fun s : Sample V => o.lt thr s.w) (a := b) hw]
  exact pickFirst_of_first_max _ _ _ b (fun s hs => hpre s (List.mem_filter.1 hs).1)
    (fun s hs => hpost s (List.mem_filter.1 hs).1)

example : aboveThreshold intOps 1 [⟨[1], -5, 0, 1⟩, ⟨[2], 3, 0, 2⟩, ⟨[3], 3, 0, 0⟩, ⟨[4], 9, 0, 5⟩]
    = [⟨[2], 3, 0, 2⟩, ⟨[4], 9, 0, 5⟩] := by decide +kernel

/-- **Any selection that keeps the best sample keeps the best likelihood** (`<` a linear order, no NaN):
a list made of samples of `ss`, in any order, that contains the best-fit sample of `ss` has the same
best-fit likelihood -/
theorem best_ll_of_selection_with_best (o : SOps V) (hirr : ∀ a, o.lt a a = false)
    (htr : ∀ a b c, o.lt a b = true → o.lt b c = true → o.lt a c = true)
    (hnt : ∀ a b c, o.lt a c = true → o.lt a b = true ∨ o.lt b c = true)
    (htot : ∀ a b, o.lt a b = false → o.lt b a = false → a = b)
    (ss l : List (Sample V)) (b : Sample V) (hb : maxSample o ss = some b) (hsub : ∀ s ∈ l, s ∈ ss) (hmem : b ∈ l) :
    bestLL o l = bestLL o ss := by
  have hss : bestLL o ss = some b.ll := congrArg (Option.map Sample.ll) hb
  cases hl : maxSample o l with
  | none => rw [(best_exists_iff o l).1 hl] at hmem; cases hmem
  | some c =>
    have hcl : bestLL o l = some c.ll := congrArg (Option.map Sample.ll) hl
    have hc : c ∈ l := pickFirst_mem _ l c ((maxSample_eq_pickFirst o l).symm.trans hl)
    have h1 := (best_is_max o hirr htr hnt l c.ll hcl).2 b hmem
    have h2 := (best_is_max o hirr htr hnt ss b.ll hss).2 c (hsub c hc)
    rw [hcl, hss, htot _ _ h1 h2]

/-- the position reported with the best sample is its position, and the sample is `max_log_likelihood_sample` -/
theorem maxLLIdx_spec (o : SOps V) (ss : List (Sample V)) :
    (maxLLIdx o ss).map (·.1) = maxSample o ss ∧ ∀ a, maxLLIdx o ss = some a → ss[a.2]? = some a.1 := by
  refine ⟨?_, fun a h => pickFirst_zipIdx _ ss a h⟩
  rw [maxSample_eq_pickFirst]
  have := pickFirst_map (Prod.fst : Sample V × Nat → Sample V) (fun b s => o.lt b.ll s.ll) ss.zipIdx
  rw [List.zipIdx_map_fst] at this
  exact this.symm

/-- **max_log_posterior_index is the first maximum of the posterior** (`np.argmax`) when no posterior is NaN and
`<` is a strict weak order: it is reported with its own position, every earlier sample has a strictly smaller
posterior and no later one a larger one. (With a NaN among the posteriors `np.argmax` returns the first NaN:
`npBetter`, compared with the code on lists containing NaN.) -/
theorem maxPostIdx_first_max (o : SOps V) (nan : V → Bool) (hnan : ∀ x, nan x = false)
    (htr : ∀ a b c, o.lt a b = true → o.lt b c = true → o.lt a c = true)
    (hnt : ∀ a b c, o.lt a c = true → o.lt a b = true ∨ o.lt b c = true)
    (ss : List (Sample V)) (b : Sample V × Nat) (h : maxPostIdx o nan ss = some b) :
    ss[b.2]? = some b.1 ∧ ∃ pre post, ss.zipIdx = pre ++ b :: post ∧
      (∀ s ∈ pre, o.lt (s.1.post o) (b.1.post o) = true) ∧
      (∀ s ∈ post, o.lt (b.1.post o) (s.1.post o) = false) := by
  refine ⟨pickFirst_zipIdx _ ss b h, ?_⟩
  rw [maxPostIdx, npBetter_of_no_nan o nan hnan] at h
  exact pickFirst_first_max o.lt (fun (s : Sample V × Nat) => s.1.post o) htr hnt ss.zipIdx b h

/-- posteriors −5, 3, 6, 6: the first of the two largest is at position 2 -/
example : maxPostIdx intOps (fun _ => false) [⟨[1], -5, 0, 1⟩, ⟨[2], 3, 0, 1⟩, ⟨[3], 2, 4, 1⟩, ⟨[4], 3, 3, 1⟩]
    = some (⟨[3], 2, 4, 1⟩, 2) := by decide +kernel
/-- a "NaN" (here: the value 99 is declared one) wins although a larger value follows, and the first one wins -/
example : maxPostIdx intOps (fun x => x == 99) [⟨[1], 1, 0, 1⟩, ⟨[2], 99, 0, 1⟩, ⟨[3], 200, 0, 1⟩, ⟨[4], 99, 0, 1⟩]
    = some (⟨[2], 99, 0, 1⟩, 1) := by decide +kernel

/-- **minimise.** whatever the likelihood and posterior values (NaN included): every sample `minimise()` keeps
is the entry of the original list at the position it is reported with, `max_log_likelihood_sample` is among
them, and at most two are kept -/
theorem minimise_sound (o : SOps V) (nan : V → Bool) (ss : List (Sample V)) (l : List (Sample V × Nat))
    (h : minimise o nan ss = some l) :
    (∀ a ∈ l, ss[a.2]? = some a.1) ∧ (∃ a ∈ l, maxSample o ss = some a.1) ∧ l.length ≤ 2 := by
  unfold minimise at h
  split at h
  · next a b ha hb =>
    have hai := (maxLLIdx_spec o ss).2 a ha
    have hbi := pickFirst_zipIdx _ ss b hb
    have hbest : maxSample o ss = some a.1 := by rw [← (maxLLIdx_spec o ss).1, ha]; rfl
    split at h <;> cases h
    · exact ⟨List.forall_mem_singleton.2 hai, ⟨a, List.mem_singleton_self a, hbest⟩, Nat.le_succ 1⟩
    · exact ⟨List.forall_mem_cons.2 ⟨hai, List.forall_mem_singleton.2 hbi⟩, ⟨a, List.mem_cons_self, hbest⟩,
        Nat.le_refl 2⟩
  · cases h

/-- **minimise keeps the best likelihood in whatever order the set is listed** (`<` a linear order) -/
theorem minimise_keeps_best (o : SOps V) (nan : V → Bool) (hirr : ∀ a, o.lt a a = false)
    (htr : ∀ a b c, o.lt a b = true → o.lt b c = true → o.lt a c = true)
    (hnt : ∀ a b c, o.lt a c = true → o.lt a b = true ∨ o.lt b c = true)
    (htot : ∀ a b, o.lt a b = false → o.lt b a = false → a = b)
    (ss : List (Sample V)) (l : List (Sample V × Nat)) (h : minimise o nan ss = some l)
    (order : List (Sample V)) (hperm : order.Perm (l.map (·.1))) : bestLL o order = bestLL o ss := by
  obtain ⟨hidx, ⟨a, hal, hbest⟩, _⟩ := minimise_sound o nan ss l h
  refine best_ll_of_selection_with_best o hirr htr hnt htot ss order a.1 hbest (fun s hs => ?_) ?_
  · obtain ⟨c, hc, rfl⟩ := List.mem_map.1 (hperm.subset hs)
    exact List.mem_of_getElem? (hidx c hc)
  · exact hperm.symm.subset (List.mem_map.2 ⟨a, hal, rfl⟩)

/-- the best likelihood sample is at 1, the best posterior sample at 2: both are kept -/
example : minimise intOps (fun _ => false) [⟨[1], -5, 0, 1⟩, ⟨[2], 3, 0, 1⟩, ⟨[3], 2, 4, 1⟩, ⟨[4], 3, 0, 1⟩]
    = some [(⟨[2], 3, 0, 1⟩, 1), (⟨[3], 2, 4, 1⟩, 2)] := by decide +kernel
example : minimise intOps (fun _ => false) wSamples = some [(⟨[2], 3, 0, 1⟩, 1)] := by decide +kernel
example : minimise intOps (fun _ => false) ([] : List (Sample Int)) = none := by decide +kernel

/-- **with_paths / without_paths keep every sample's likelihood, prior and weight and the values of the keys
they keep**: the kept entries are a sub-list of the stored ones (same order, same values), selected by the
path test alone -/
theorem paths_keep_tuple {A : Type} [DecidableEq A] (paths : List (List A)) (s : KSample (List A) V) :
    ((withPathsK paths s).ll = s.ll ∧ (withPathsK paths s).lp = s.lp ∧ (withPathsK paths s).w = s.w ∧
      (withPathsK paths s).kwargs.Sublist s.kwargs ∧
      ∀ e, e ∈ (withPathsK paths s).kwargs ↔ e ∈ s.kwargs ∧ pathMatch paths e.1 = true) ∧
    ((withoutPathsK paths s).ll = s.ll ∧ (withoutPathsK paths s).lp = s.lp ∧ (withoutPathsK paths s).w = s.w ∧
      (withoutPathsK paths s).kwargs.Sublist s.kwargs ∧
      ∀ e, e ∈ (withoutPathsK paths s).kwargs ↔ e ∈ s.kwargs ∧ pathMatch paths e.1 = false) :=
  ⟨⟨rfl, rfl, rfl, List.filter_sublist, fun _ => List.mem_filter⟩,
   ⟨rfl, rfl, rfl, List.filter_sublist, fun _ => List.mem_filter.trans (and_congr_right fun _ => Iff.of_eq (Bool.not_eq_true' _))⟩⟩

/-- **… and the best fit**: the best sample of the reduced list is the reduction of the best sample -/
theorem paths_keep_best {A : Type} [DecidableEq A] (o : SOps V) (paths : List (List A))
    (ss : List (KSample (List A) V)) :
    maxSampleK o (ss.map (withPathsK paths)) = (maxSampleK o ss).map (withPathsK paths) ∧
    maxSampleK o (ss.map (withoutPathsK paths)) = (maxSampleK o ss).map (withoutPathsK paths) :=
  ⟨pickFirst_map (withPathsK paths) (fun b s => o.lt b.ll s.ll) ss,
   pickFirst_map (withoutPathsK paths) (fun b s => o.lt b.ll s.ll) ss⟩

/-- storing the converted samples under their keys does not move the best fit either -/
theorem stored_keep_best {K : Type} (o : SOps V) (keys : List K) (ss : List (Sample V)) :
    maxSampleK o (ss.map (toK keys)) = (maxSample o ss).map (toK keys) := by
  rw [maxSample_eq_pickFirst]
  exact pickFirst_map (toK keys) (fun b s => o.lt b.ll s.ll) ss

/-- naming a sample's own keys keeps all of it -/
theorem with_own_paths {A : Type} [DecidableEq A] (s : KSample (List A) V) :
    withPathsK (s.kwargs.map (·.1)) s = s := by
  have : s.kwargs.filter (fun e => pathMatch (s.kwargs.map (·.1)) e.1) = s.kwargs :=
    List.filter_eq_self.2 fun e he => List.any_eq_true.2 ⟨e.1, List.mem_map_of_mem he, zipAllEq_refl _⟩
  rw [withPathsK, this]

def wK : KSample (List String) Int := toK [["g", "a"], ["g", "b"], ["h", "a"]] ⟨[10, 20, 30], 7, 1, 2⟩

example : withPathsK [["g"]] wK = ⟨[(["g", "a"], 10), (["g", "b"], 20)], 7, 1, 2⟩ := by decide +kernel
example : withoutPathsK [["g"]] wK = ⟨[(["h", "a"], 30)], 7, 1, 2⟩ := by decide +kernel
/-- a key that is a proper prefix of the path matches as well (`zip` stops at the shorter one) -/
example : withPathsK [["h", "a", "zz"]] wK = ⟨[(["h", "a"], 30)], 7, 1, 2⟩ := by decide +kernel
example : maxSampleK intOps (wSamples.map (toK [["x"]])) = some (toK [["x"]] ⟨[2], 3, 0, 1⟩) := by decide +kernel

end AF.C05
