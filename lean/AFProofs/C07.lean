import AFModel.Ident
import AFModel.IdentComp
import AFProofs.Lemmas.IdentComp
import AFModel.IdentJoin
import AFProofs.Lemmas.IdentJoin
import AFModel.IdentSearch
import AFProofs.Lemmas.IdentSearch

/-!
# C07 — the fit identifier is a stable, sensitive function of what is fitted

Theorems about `tokens` (`AFModel/Ident.lean`), the model of `Identifier._add_value_to_hash_list`.
The identifier is `md5(".".join(tokens))`: md5 is outside the model (trusted base; the correspondence
compares token lists with the real `hash_list`, the oracle compares real identifiers); the join is
`joinTokens`, and what it forgets is `join_eq_iff_pieces`.

*Stability*: `tokens` is a function of the reflection `PyVal` alone — no object identity, address,
hash seed, creation order or internal id can enter, because `PyVal` does not contain any; what the
reflection drops (private keys, `id`, `paths`) is shown irrelevant by `private_fields_irrelevant`.
*Sensitivity*: `plug_sensitive` — a change anywhere at a visible place changes the token list.
-/

namespace AF.C07
open AF AF.IdentComp

def visible (keep : String → Bool) (d : List (String × PyVal)) : List (String × PyVal) :=
  d.filter (fun kv => keep kv.1 && !skipKey kv.1)

/-- **Private fields, `id`, `paths` and de-selected attributes are irrelevant**: the tokens of a
field list are those of its visible part. Hence internal ids, labels, caches, frozen flags and
non-identifying settings cannot influence the identifier. -/
theorem private_fields_irrelevant (keep) : ∀ (d : List (String × PyVal)),
    tokensFields keep d = tokensFields (fun _ => true) (visible keep d)
  | [] => by simp [visible, tokensFields]
  | (k, v) :: rest => by
    have ih := private_fields_irrelevant keep rest
    simp only [visible] at ih ⊢
    cases hk : keep k <;> cases hs : skipKey k <;>
      simp [tokensFields, List.filter, hk, hs, ih]

theorem same_visible_same_tokens (c : String) (mo : Bool) (ctor ex) (d d' : List (String × PyVal))
    (h : visible (keepField mo ctor ex) d = visible (keepField mo ctor ex) d') :
    tokens (.obj c mo none ctor ex d) = tokens (.obj c mo none ctor ex d') := by
  simp only [tokens]
  rw [private_fields_irrelevant _ d, private_fields_irrelevant _ d', h]

/-- with `__identifier_fields__` nothing but those fields (and the class name) matters -/
theorem identifier_fields_only (c : String) (mo mo' : Bool) (fs) (ctor ctor' ex ex') (d d' : List (String × PyVal)) :
    tokens (.obj c mo (some fs) ctor ex d) = tokens (.obj c mo' (some fs) ctor' ex' d') := by
  simp [tokens]

/-- one step from a value to its parent -/
inductive Step where
  /-- value of identifier field `k` of an object -/
  | idField (c : String) (mo : Bool) (ctor : List String) (ex : Option (List String)) (d : List (String × PyVal))
      (pre : List (String × PyVal)) (k : String) (post : List (String × PyVal))
  /-- value of attribute `k` of an object without identifier fields -/
  | attr (c : String) (mo : Bool) (ctor : List String) (ex : Option (List String))
      (pre : List (String × PyVal)) (k : String) (post : List (String × PyVal))
  /-- value under key `k` of a dict -/
  | item (pre : List (String × PyVal)) (k : String) (post : List (String × PyVal))
  /-- element of a list / tuple -/
  | elem (pre post : List PyVal)

def Step.plug : Step → PyVal → PyVal
  | .idField c mo ctor ex d pre k post, v => .obj c mo (some (pre ++ (k, v) :: post)) ctor ex d
  | .attr c mo ctor ex pre k post, v => .obj c mo none ctor ex (pre ++ (k, v) :: post)
  | .item pre k post, v => .dict (pre ++ (k, v) :: post)
  | .elem pre post, v => .iter (pre ++ v :: post)

/-- the place is one the identifier looks at -/
def Step.visible : Step → Prop
  | .idField _ _ _ _ _ _ k _ => skipKey k = false
  | .attr _ mo ctor ex _ k _ => keepField mo ctor ex k = true ∧ skipKey k = false
  | .item _ k _ => skipKey k = false
  | .elem _ _ => True

theorem step_eq_iff (s : Step) (hv : s.visible) (v v' : PyVal) :
    tokens (s.plug v) = tokens (s.plug v') ↔ tokens v = tokens v' := by
  cases s with
  | idField c mo ctor ex d pre k post =>
    simp only [Step.plug, tokens, List.cons.injEq, true_and]
    exact fields_eq_iff _ pre post k v v' rfl hv
  | attr c mo ctor ex pre k post =>
    simp only [Step.plug, tokens, List.cons.injEq, true_and]
    exact fields_eq_iff _ pre post k v v' hv.1 hv.2
  | item pre k post =>
    simp only [Step.plug, tokens]
    exact fields_eq_iff _ pre post k v v' rfl hv
  | elem pre post =>
    simp only [Step.plug, tokens, tokensList_eq]
    exact flatMap_eq_at_iff tokens pre post

/-- plug a value into a context (innermost step first) -/
def plug : List Step → PyVal → PyVal
  | [], v => v
  | s :: rest, v => plug rest (s.plug v)

theorem plug_eq_iff : ∀ (ctx : List Step), (∀ s ∈ ctx, s.visible) → ∀ (v v' : PyVal),
    (tokens (plug ctx v) = tokens (plug ctx v') ↔ tokens v = tokens v')
  | [], _, _, _ => Iff.rfl
  | s :: rest, hv, v, v' =>
    (plug_eq_iff rest (fun t ht => hv t (List.mem_cons_of_mem _ ht)) _ _).trans
      (step_eq_iff s (hv s (List.mem_cons_self ..)) v v')

/-- **Sensitivity.** Replacing the value at any visible place (any depth, any mixture of objects,
dicts and lists around it) by one with different tokens changes the token list of the whole. -/
theorem plug_sensitive : ∀ (ctx : List Step), (∀ s ∈ ctx, s.visible) → ∀ (v v' : PyVal),
    tokens v ≠ tokens v' → tokens (plug ctx v) ≠ tokens (plug ctx v') :=
  fun ctx hv v v' h e => h ((plug_eq_iff ctx hv v v').mp e)

/-- leaves: a different class, string (tag, name of a setting's value), boolean or float token -/
theorem cls_sensitive (p p' : String) (h : p ≠ p') : tokens (.cls p) ≠ tokens (.cls p') := by
  simpa [tokens] using h
theorem str_sensitive (s s' : String) (h : s ≠ s') : tokens (.str s) ≠ tokens (.str s') := by
  simpa [tokens] using h
theorem bool_sensitive (b b' : Bool) (h : b ≠ b') : tokens (.bool b) ≠ tokens (.bool b') := by
  cases b <;> cases b' <;> simp_all [tokens]
theorem float_sensitive (b b' : UInt64) (h : floatToken b ≠ floatToken b') :
    tokens (.float b) ≠ tokens (.float b') := by
  simpa [tokens] using h
/-- … and the class *name* of an object (prior type, search type, component type) -/
theorem class_name_sensitive (c c' : String) (mo idf ctor ex d) (h : c ≠ c') :
    tokens (.obj c mo idf ctor ex d) ≠ tokens (.obj c' mo idf ctor ex d) := by
  intro he
  -- the equation of `tokens` at `.obj` matches on `idf`
  cases idf <;> simp only [tokens, List.cons.injEq] at he <;> exact h he.1

/-! ## non-vacuity and the recorded blind spot

`UniformPrior(0,1)` reflected; a model `M(centre=p, sigma=p)` with one shared prior and a model
with two equal independent priors have the *same* reflection, hence the same tokens: the identifier
cannot see the sharing pattern (known finding C07-sharing-blind; the reflection is faithful here,
the real identifiers coincide — replayed by the harness on every run). -/

def prior01 : PyVal := .obj "UniformPrior" true (some [("lower_limit", .float 0), ("upper_limit", .float 0x3ff0000000000000)]) [] none []
def modelM : PyVal := .obj "Model" true none [] none
  [("cls", .cls "vlib.P2"), ("id", .int 7), ("_label", .str "x"), ("a", prior01), ("b", prior01)]

example : tokens modelM = ["Model", "cls", "vlib.P2", "a", "UniformPrior", "lower_limit", floatToken 0, "upper_limit",
    floatToken 0x3ff0000000000000, "b", "UniformPrior", "lower_limit", floatToken 0, "upper_limit", floatToken 0x3ff0000000000000] := by
  simp [modelM, prior01, tokens, tokensFields, keepField, skipKey]
example : (Step.attr "Model" true [] none [("cls", .cls "vlib.P2")] "a" [("b", prior01)]).visible := by
  simp [Step.visible, keepField, skipKey]

/-! ## the identifier as a function of the composition (`AFModel/IdentComp.lean`)

`reflect t` is the `__dict__` graph of the real model objects of composition `t` (internal ids, labels,
assertions, `_left` / `_right`, frozen caches included), `ctokens t` the closed form that never looks at
`Meta`. The driver executes both on every generated model and the harness compares both with
`Identifier(model).hash_list`. -/

/-- **Closed form.** The tokens of the reflected object graph are a function of the composition alone. -/
theorem tokens_reflect_closed_form (t : CNode) : tokens (reflect t) = ctokens t := tokens_reflect t

/-- **Stability.** Whatever is done to the internal ids, labels and assertions of every object of a
composition — by any function, not only injective ones — the tokens stay the same. -/
theorem tokens_ignore_meta (f : Meta → Meta) (t : CNode) :
    tokens (reflect (t.mapMeta f)) = tokens (reflect t) := by
  rw [tokens_reflect, tokens_reflect, ctokens_mapMeta]

/-- renaming of internal ids: creation order, id offsets of another process, copies -/
theorem tokens_rename_ids (σ : Nat → Nat) (t : CNode) :
    tokens (reflect (t.renameIds σ)) = tokens (reflect t) := tokens_ignore_meta _ t

theorem tokens_relabel (f : Option String → Option String) (t : CNode) :
    tokens (reflect (t.relabel f)) = tokens (reflect t) := tokens_ignore_meta _ t

/-- assertions attached to any component never enter the identifier -/
theorem tokens_ignore_assertions (f : List String → List String) (t : CNode) :
    tokens (reflect (t.setAsserts f)) = tokens (reflect t) := tokens_ignore_meta _ t

theorem tokens_fitVal (s : PyVal) (t : CNode) (tag : Option String) :
    tokens (fitVal s t tag) = tokens s ++ (tokens (reflect t) ++ tag.toList) := by
  cases tag <;> simp [fitVal, tokens, tokensList]

/-- the whole fit `[search, model(, tag)]` likewise -/
theorem fit_ignores_meta (f : Meta → Meta) (s : PyVal) (t : CNode) (tag : Option String) :
    tokens (fitVal s (t.mapMeta f) tag) = tokens (fitVal s t tag) := by
  rw [tokens_fitVal, tokens_fitVal, tokens_ignore_meta]

theorem comp_plug_eq_iff : ∀ (ctx : List CStep), (∀ s ∈ ctx, s.visible) → ∀ (v w : CNode),
    (ctokens (cplug ctx v) = ctokens (cplug ctx w) ↔ ctokens v = ctokens w)
  | [], _, _, _ => Iff.rfl
  | s :: rest, hv, v, w =>
    (comp_plug_eq_iff rest (fun t ht => hv t (List.mem_cons_of_mem _ ht)) _ _).trans
      (cstep_eq_iff s (hv s (List.mem_cons_self ..)) v w)

/-- **Sensitivity over compositions.** Replacing the component at any visible place of ANY composition
(any depth: attributes of models, collections, tuples, arrays, fixed instances, operands of arithmetic
priors, list elements) by one with different tokens changes the tokens of the whole. -/
theorem comp_plug_sensitive : ∀ (ctx : List CStep), (∀ s ∈ ctx, s.visible) → ∀ (v w : CNode),
    tokens (reflect v) ≠ tokens (reflect w) → tokens (reflect (cplug ctx v)) ≠ tokens (reflect (cplug ctx w)) := by
  simp only [tokens_reflect]
  exact fun ctx hv v w h e => h ((comp_plug_eq_iff ctx hv v w).mp e)

/-- … and of the fit it belongs to (same search, same tag) -/
theorem fit_model_sensitive (s : PyVal) (t u : CNode) (tag : Option String)
    (h : tokens (reflect t) ≠ tokens (reflect u)) : tokens (fitVal s t tag) ≠ tokens (fitVal s u tag) := by
  simpa only [tokens_fitVal, ne_eq, List.append_cancel_left_eq, List.append_cancel_right_eq] using h

/-- a different unique tag (same search and model) -/
theorem fit_tag_sensitive (s : PyVal) (t : CNode) (a b : String) (h : a ≠ b) :
    tokens (fitVal s t (some a)) ≠ tokens (fitVal s t (some b)) := by
  simpa [tokens_fitVal] using h

/-- a tag against no tag -/
theorem fit_tag_presence_sensitive (s : PyVal) (t : CNode) (a : String) :
    tokens (fitVal s t (some a)) ≠ tokens (fitVal s t none) := by
  simp [tokens_fitVal]

theorem kind_className_injective : ∀ (k j : PriorKind), k.className = j.className → k = j := by
  intro k j; cases k <;> cases j <;> simp [PriorKind.className]

theorem prior_tokens_eq_iff {m n : Meta} {k j : PriorKind} {lo hi mean sigma lo2 hi2 mean2 sigma2 : UInt64} :
    tokens (reflect (.prior m k lo hi mean sigma)) = tokens (reflect (.prior n j lo2 hi2 mean2 sigma2)) ↔
      k = j ∧ floatToken lo = floatToken lo2 ∧ floatToken hi = floatToken hi2 ∧
        (k.hasMeanSigma = true → floatToken mean = floatToken mean2 ∧ floatToken sigma = floatToken sigma2) := by
  by_cases hkj : k = j
  · subst hkj
    cases hk : k.hasMeanSigma <;> simp [tokens_reflect, ctokens, priorTokens, hk]
  · simp [tokens_reflect, ctokens, hkj, mt (kind_className_injective k j) hkj]

/-- the prior type -/
theorem prior_kind_sensitive (m n : Meta) (k j : PriorKind) (lo hi mean sigma lo2 hi2 mean2 sigma2 : UInt64) (h : k ≠ j) :
    tokens (reflect (.prior m k lo hi mean sigma)) ≠ tokens (reflect (.prior n j lo2 hi2 mean2 sigma2)) :=
  fun e => h (prior_tokens_eq_iff.mp e).1

/-- the lower limit of a prior (beyond the 1e-8 quantisation: different float tokens) -/
theorem prior_lower_sensitive (m n : Meta) (k : PriorKind) (lo lo2 hi mean sigma : UInt64)
    (h : floatToken lo ≠ floatToken lo2) :
    tokens (reflect (.prior m k lo hi mean sigma)) ≠ tokens (reflect (.prior n k lo2 hi mean sigma)) :=
  fun e => h (prior_tokens_eq_iff.mp e).2.1

theorem prior_upper_sensitive (m n : Meta) (k : PriorKind) (lo hi hi2 mean sigma : UInt64)
    (h : floatToken hi ≠ floatToken hi2) :
    tokens (reflect (.prior m k lo hi mean sigma)) ≠ tokens (reflect (.prior n k lo hi2 mean sigma)) :=
  fun e => h (prior_tokens_eq_iff.mp e).2.2.1

theorem prior_mean_sensitive (m n : Meta) (k : PriorKind) (lo hi mean mean2 sigma : UInt64)
    (hk : k.hasMeanSigma = true) (h : floatToken mean ≠ floatToken mean2) :
    tokens (reflect (.prior m k lo hi mean sigma)) ≠ tokens (reflect (.prior n k lo hi mean2 sigma)) :=
  fun e => h ((prior_tokens_eq_iff.mp e).2.2.2 hk).1

theorem prior_sigma_sensitive (m n : Meta) (k : PriorKind) (lo hi mean sigma sigma2 : UInt64)
    (hk : k.hasMeanSigma = true) (h : floatToken sigma ≠ floatToken sigma2) :
    tokens (reflect (.prior m k lo hi mean sigma)) ≠ tokens (reflect (.prior n k lo hi mean sigma2)) :=
  fun e => h ((prior_tokens_eq_iff.mp e).2.2.2 hk).2

/-- a fixed value (beyond the 1e-8 quantisation) -/
theorem const_sensitive (a b : UInt64) (h : floatToken a ≠ floatToken b) :
    tokens (reflect (.flt a)) ≠ tokens (reflect (.flt b)) := by
  simpa [tokens_reflect, ctokens] using h

/-- a prior against a fixed value at the same place -/
theorem prior_vs_const_sensitive (m : Meta) (k : PriorKind) (lo hi mean sigma a : UInt64) :
    tokens (reflect (.prior m k lo hi mean sigma)) ≠ tokens (reflect (.flt a)) := by
  intro he
  have := congrArg List.length he
  cases hk : k.hasMeanSigma <;> simp [tokens_reflect, ctokens, priorTokens, hk] at this

/-- the class of a component -/
theorem model_class_sensitive (m n : Meta) (p q : String) (attrs : List (String × CNode)) (h : p ≠ q) :
    tokens (reflect (.model m p attrs)) ≠ tokens (reflect (.model n q attrs)) := by
  simp [tokens_reflect, ctokens, h]

/-- the name of a parameter / component of a model … -/
theorem model_attr_name_sensitive (m n : Meta) (p : String) (pre post : List (String × CNode)) (k j : String) (v : CNode)
    (hk : skipKey k = false) (hj : skipKey j = false) (h : k ≠ j) :
    tokens (reflect (.model m p (pre ++ (k, v) :: post))) ≠ tokens (reflect (.model n p (pre ++ (j, v) :: post))) := by
  simp only [tokens_reflect, ctokens, ne_eq, List.cons.injEq, true_and]
  exact cattrs_name_sensitive _ pre post k j v rfl hk rfl hj h

/-- … and of a collection -/
theorem coll_attr_name_sensitive (m n : Meta) (i : Nat) (pre post : List (String × CNode)) (k j : String) (v : CNode)
    (hk : skipKey k = false) (hj : skipKey j = false) (h : k ≠ j) :
    tokens (reflect (.coll m i (pre ++ (k, v) :: post))) ≠ tokens (reflect (.coll n i (pre ++ (j, v) :: post))) := by
  simp only [tokens_reflect, ctokens, ne_eq, List.cons.injEq, true_and]
  exact cattrs_name_sensitive _ pre post k j v rfl hk rfl hj h

/-- the arithmetic operation of a compound prior -/
theorem arith_op_sensitive (m n : Meta) (op op2 : BinOp) (ln rn : String) (l r : CNode)
    (h : op.className ≠ op2.className) :
    tokens (reflect (.arith m op ln rn l r)) ≠ tokens (reflect (.arith n op2 ln rn l r)) := by
  simp [tokens_reflect, ctokens, h]

/-! ### non-vacuity, and the recorded blind spots restated on compositions -/

def m0 : Meta := ⟨0, none, []⟩
def m1 : Meta := ⟨1, some "sigma", ["a < b"]⟩
def u01 (m : Meta) : CNode := .prior m .uniform 0 0x3ff0000000000000 0 0
/-- `Collection(g=Model(P2, a=U(0,1), b=U(0,1)), k=2.0)` with two independent priors -/
def compIndep : CNode :=
  .coll ⟨3, none, []⟩ 0 [("g", .model ⟨2, some "g", ["a < b"]⟩ "vlib.P2" [("a", u01 m0), ("b", u01 m1)]), ("k", .flt 0x4000000000000000)]

example : ctokens compIndep =
    ["Collection", "item_number", "0", "g", "Model", "cls", "vlib.P2", "a", "UniformPrior", "lower_limit", floatToken 0,
      "upper_limit", floatToken 0x3ff0000000000000, "b", "UniformPrior", "lower_limit", floatToken 0, "upper_limit",
      floatToken 0x3ff0000000000000, "k", floatToken 0x4000000000000000] := by
  have h0 : Int.repr 0 = "0" := by decide +kernel
  simp [compIndep, u01, ctokens, ctokensAttrs, priorTokens, PriorKind.className, PriorKind.hasMeanSigma, skipKey, h0]

/-- the place `g.b` of `compIndep` as a context: both steps are visible, `comp_plug_sensitive` applies -/
def ctxGB : List CStep :=
  [.modelAttr ⟨2, some "g", []⟩ "vlib.P2" [("a", u01 m0)] "b" [],
   .collAttr ⟨3, none, []⟩ 0 [] "g" [("k", .flt 0x4000000000000000)]]
example : ∀ s ∈ ctxGB, s.visible := by
  intro s hs
  simp only [ctxGB, List.mem_cons, List.mem_nil_iff, or_false] at hs
  rcases hs with rfl | rfl <;> simp [CStep.visible, skipKey]
example : (compIndep.renameIds (· + 40)).priorIds = [40, 41] := rfl
example : PriorKind.uniform ≠ PriorKind.logUniform := by decide
example : PriorKind.gaussian.hasMeanSigma = true := rfl

/-- **Recorded blind spot (known finding C07-sharing-blind), on compositions.** `tokens_rename_ids`
holds for every map of ids, also one that merges two priors into one: a composition with two
independent equal priors (2 parameters) and the one where both places hold the same prior
(1 parameter) have the same tokens. The property's clause "differs whenever the sharing pattern
differs" is refuted by this witness; the stable half (injective renamings) is `tokens_rename_ids`. -/
theorem sharing_sensitive_refuted :
    ∃ t u : CNode, t.priorIds = [0, 1] ∧ u.priorIds = [0, 0] ∧ tokens (reflect t) = tokens (reflect u) :=
  ⟨compIndep, compIndep.renameIds (fun _ => 0), rfl, rfl, (tokens_rename_ids _ _).symm⟩

/-- **Recorded over-sensitivity (known findings C07-reload-arith-names / caller variable names), on
compositions.** The names under which a compound prior stores its operands are tokens: the same
arithmetic with other operand names (another caller variable, or `left_` / `right_` after a reload)
has other tokens. -/
theorem arith_operand_names_enter_refuted (m : Meta) (op : BinOp) (ln ln2 rn : String) (l r : CNode)
    (h1 : ln ≠ rn) (h2 : ln2 ≠ rn) (hs : skipKey ln = false) (hs2 : skipKey ln2 = false) (h : ln ≠ ln2) :
    tokens (reflect (.arith m op ln rn l r)) ≠ tokens (reflect (.arith m op ln2 rn l r)) := by
  simp [tokens_reflect, ctokens, h1, h2, hs, hs2, h]

example : skipKey "alpha" = false ∧ skipKey "left_" = false ∧ "alpha" ≠ "left_" ∧ "alpha" ≠ "right_" := by
  decide +kernel

/-! ## the text that is hashed: `".".join(hash_list)` (`AFModel/IdentJoin.lean`) -/

open AF.IdentJoin

/-- **What the join forgets, exactly.** Two non-empty token lists are joined to the same text (and so
get the same md5) if and only if they coincide after every token is cut at its dots. -/
theorem join_eq_iff_pieces (l m : List String) (hl : l ≠ []) (hm : m ≠ []) :
    joinTokens l = joinTokens m ↔ tokenPieces l = tokenPieces m := by
  have hl2 : l.map String.toList ≠ [] := by simpa using hl
  have hm2 : m.map String.toList ≠ [] := by simpa using hm
  rw [← String.toList_inj, joinTokens_toList, joinTokens_toList, joinChars_eq_iff _ _ hl2 hm2]
  exact (List.map_inj_right fun _ _ => String.ofList_injective).symm

theorem join_injective_on_dotfree (l m : List String) (hl : l ≠ []) (hm : m ≠ [])
    (dl : ∀ t ∈ l, dotFree t.toList = true) (dm : ∀ t ∈ m, dotFree t.toList = true)
    (h : joinTokens l = joinTokens m) : l = m :=
  calc l = tokenPieces l := (tokenPieces_dotFree l dl).symm
    _ = tokenPieces m := (join_eq_iff_pieces l m hl hm).mp h
    _ = m := tokenPieces_dotFree m dm

theorem join_merge_adjacent (pre : List String) (a b : String) (post : List String) :
    joinTokens (pre ++ a :: b :: post) = joinTokens (pre ++ (a ++ "." ++ b) :: post) := by
  have dot : ".".toList = ['.'] := rfl
  refine (join_eq_iff_pieces _ _ (by simp) (by simp)).mpr ?_
  simp only [tokenPieces, List.map_append, List.map_cons, String.toList_append, dot, piecesOfTokens_append, piecesOfTokens,
    List.append_assoc, List.singleton_append, pieces_append_dot]

/-- **Recorded defect (known finding C07-join-ambiguous).** Two different fits with the same identifier:
a model whose last token is a fixed string `a`, fitted under the unique tag `b`, and the same model with
the string `a.b`, fitted without a tag, have different token lists but the same hashed text (reproduced on
the real code by the harness on every run, with a second witness: the list of integers `[1, 0]` against
the list `[1.0]` inside a fixed component). -/
theorem fit_join_collision_refuted (s : PyVal) (m : Meta) (path k a b : String) (hk : skipKey k = false) :
    tokens (fitVal s (.model m path [(k, .str a)]) (some b))
        ≠ tokens (fitVal s (.model m path [(k, .str (a ++ "." ++ b))]) none)
      ∧ joinTokens (tokens (fitVal s (.model m path [(k, .str a)]) (some b)))
        = joinTokens (tokens (fitVal s (.model m path [(k, .str (a ++ "." ++ b))]) none)) := by
  have e : ∀ (x : String) (tag : Option String), tokens (fitVal s (.model m path [(k, .str x)]) tag)
      = (tokens s ++ ["Model", "cls", path, k]) ++ x :: tag.toList := fun x tag => by
    simp [tokens_fitVal, tokens_reflect, ctokens, ctokensAttrs, hk]
  rw [e, e]
  exact ⟨fun he => by simpa using congrArg List.length he, join_merge_adjacent _ a b []⟩

example : joinTokens ["Lst", "values", "1", "0", "k"] = joinTokens ["Lst", "values", "1.0", "k"] :=
  join_merge_adjacent ["Lst", "values"] "1" "0" ["k"]
example : tokenPieces ["vlib.P2", "a", "1.5"] = ["vlib", "P2", "a", "1", "5"] := by decide +kernel
example : dotFree "lower_limit".toList = true := by decide +kernel

/-! ## which settings identify a search: over the generated table (`AFModel/Generated/C07.lean`)

The table is regenerated from the repository source before every build; the theorems below are about
*every* row of it, so they are re-proved for whatever the source declares. -/

open AF.Generated.C07

/-- **Every identifying setting of every search class is sensitive**: changing it (to a value with other
tokens, everything else equal) changes the tokens of the search. -/
theorem every_identifying_setting_sensitive : ∀ row ∈ searchTable, ∀ f ∈ row.idf, ∀ (σ τ : String → PyVal),
    tokens (σ f) ≠ tokens (τ f) → (∀ g, g ≠ f → σ g = τ g) → tokens (searchVal row σ) ≠ tokens (searchVal row τ) :=
  fun row hr f hf σ τ hd hsame =>
    have ok := AF.IdentSearch.table_rows row hr
    AF.IdentSearch.search_field_sensitive row ok.1 f hf (ok.2.1 f hf) σ τ hd hsame

/-- **No other setting is**: changing any setting that is not an identifying one (iterations per update,
number of cores, name, path prefix, run settings …) leaves the tokens unchanged — for every search class. -/
theorem no_other_setting_identifying : ∀ row ∈ searchTable, ∀ g ∈ row.others, ∀ (σ τ : String → PyVal),
    (∀ f, f ≠ g → σ f = τ f) → tokens (searchVal row σ) = tokens (searchVal row τ) :=
  fun row hr g hg σ τ hsame =>
    AF.IdentSearch.search_tokens_only_identifying row σ τ
      (fun f hf => hsame f (fun e => (AF.IdentSearch.table_rows row hr).2.2 g hg (e ▸ hf)))

/-- two search classes never share their tokens (class names in the table are distinct, the name is the first token) -/
theorem search_class_sensitive (r1 r2 : SearchRow) (σ τ : String → PyVal) (h : r1.name ≠ r2.name) :
    tokens (searchVal r1 σ) ≠ tokens (searchVal r2 τ) := by
  simp only [AF.IdentSearch.tokens_searchVal, ne_eq, List.cons.injEq, not_and]
  intro e; exact absurd e h

theorem search_class_names_distinct : (searchTable.map (·.name)).Nodup := by decide +kernel

/-- the prior kinds of the composition model carry exactly the identifier fields the source declares -/
theorem prior_kinds_match_source : ∀ k ∈ allKinds, priorTable.lookup k.className = some (priorFieldNames k) :=
  AF.IdentSearch.prior_table_matches

/-- … and the source declares no prior class the composition model does not know -/
theorem prior_kinds_complete : priorTable.map (·.1) = ["GaussianPrior", "LogGaussianPrior", "LogUniformPrior", "UniformPrior"] :=
  AF.IdentSearch.prior_table_complete

example : (lookupRow "Drawer").map (·.idf) = some ["total_draws"] := by decide +kernel
example : ∃ row ∈ searchTable, "nlive" ∈ row.idf ∧ "iterations_per_update" ∈ row.others := by decide +kernel
example : tokens (.int 50) ≠ tokens (.int 51) := by decide +kernel

end AF.C07
