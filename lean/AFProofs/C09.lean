import AFProofs.Lemmas.SamplesIO
import AFProofs.Lemmas.SamplesStats

/-!
# C09 — samples survive persistence and reload identically

Subject: the executable model `AF.SamplesIO` (`AFModel/SamplesIO.lean`) that the driver runs beside
the real code on every generated case. `Shape` is what `Samples` asks of its model (`all_paths`,
`all_names`, `unique_prior_paths`, in id order); `WF` is a decidable well-formedness predicate the
driver evaluates on the shape of every generated composition (`"wf"` in its answer). `cfg` carries
the two finding flags; `true` is the behaviour with `fixes/C09-sample-keys-and-zero-values.patch`.

The three ways samples are stored: the table `samples.csv` (`csv_roundtrip`), the summary
`samples_summary.json` (`summary_roundtrip`), the database rows (`efficient_roundtrip`); then what is
computed from reloaded samples: the best fit, and the estimates as `AF.SamplesStats` models them over
exact rationals.
-/

namespace AF.C09
open AF AF.SamplesIO

variable {V T : Type}

/-- **the text of a column reads back as its path** -/
theorem text_of_key_reads_back (p : NPath) (hne : p ≠ []) (hclean : ∀ c ∈ p, '.' ∉ c) :
    splitDots (joinDots p) = p :=
  splitDots_joinDots p hne hclean

/-- **A fit's own samples** (`Sample.from_lists`) are looked up in parameter order, under both the
pinned and the repaired look-up: value `ps[i]` for parameter `i`. -/
theorem from_lists_lookup (cfg : Cfg) {sh : Shape} (wf : WF sh) (ll lp w : V) (ps : List V)
    (hlen : ps.length = sh.length) :
    paramList cfg sh (fromVector sh ll lp w ps) = some ps := by
  rw [fromVector_eq wf ll lp w ps hlen]
  exact paramList_kwOf cfg wf (fun _ _ => rfl) (.inr (.inl fun _ _ => rfl)) ll lp w ps hlen

/-- **Table round trip.** Whatever list of samples `write_table` could write (`saveCsv … = some tb`,
i.e. the fit itself did not fail), for every padding of the header cells and every number text with
`rd (shw x) = x`: `load_from_table` succeeds, returns as many samples in the same order with the
same log-likelihood, log-prior and weight, and the parameter values looked up in the loaded samples
are those looked up in the original ones (and the look-up succeeds). -/
theorem csv_roundtrip (cfg : Cfg) (ops : VOps V) {sh : Shape} (wf : WF sh) (hr : Route cfg sh)
    (pads : List Nat) (shw : V → T) (rd : T → V) (hrd : ∀ x, rd (shw x) = x)
    (ss : List (Sample V)) (tb : Table T) (hsave : saveCsv cfg ops sh pads shw ss = some tb) :
    ∃ ss' pss, loadCsv rd tb = some ss' ∧
      ss'.map (·.ll) = ss.map (·.ll) ∧ ss'.map (·.lp) = ss.map (·.lp) ∧ ss'.map (·.w) = ss.map (·.w) ∧
      mapOpt (paramList cfg sh) ss' = some pss ∧ mapOpt (paramList cfg sh) ss = some pss := by
  obtain ⟨g, hg, hload⟩ := loadCsv_saved cfg ops wf pads shw rd hrd ss tb hsave
  -- `List.map_map` is enough: the function mapped over `ss` keeps `ll`, `lp`, `w` by definition
  refine ⟨_, ss.map g, hload, List.map_map, List.map_map, List.map_map, ?_, mapOpt_eq_map _ g ss hg⟩
  rw [mapOpt_map]
  exact mapOpt_eq_map _ g ss fun s hs =>
    paramList_tableSample cfg wf hr _ _ _ (g s) (mapOpt_length _ _ _ (hg s hs))

/-- full strength for the repaired look-up: no condition on the shape beyond `WF` -/
theorem csv_roundtrip_repaired (ops : VOps V) {sh : Shape} (wf : WF sh)
    (pads : List Nat) (shw : V → T) (rd : T → V) (hrd : ∀ x, rd (shw x) = x)
    (ss : List (Sample V)) (tb : Table T) (hsave : saveCsv {} ops sh pads shw ss = some tb) :
    ∃ ss' pss, loadCsv rd tb = some ss' ∧
      ss'.map (·.ll) = ss.map (·.ll) ∧ ss'.map (·.lp) = ss.map (·.lp) ∧ ss'.map (·.w) = ss.map (·.w) ∧
      mapOpt (paramList {} sh) ss' = some pss ∧ mapOpt (paramList {} sh) ss = some pss :=
  csv_roundtrip {} ops wf (Or.inl rfl) pads shw rd hrd ss tb hsave

/-- **Summary round trip.** The best-fit (or median) sample of a fit, written by `Sample.dict` and
read by `from_dict`, keeps its log-likelihood, log-prior and weight and gives value `ps[i]` for
parameter `i` — provided the dictionary reader keeps zeros or no value is zero, and the look-up is
the repaired one or the columns are all top-level / all nested. -/
theorem summary_roundtrip (cfg : Cfg) (ops : VOps V) {sh : Shape} (wf : WF sh) (hr : Route cfg sh)
    (ll lp w : V) (ps : List V) (hlen : ps.length = sh.length)
    (hz : cfg.dictKeepsFalsy = true ∨ ∀ v ∈ ps, ops.isZero v = false) :
    let s' := summaryRoundtrip cfg ops (fromVector sh ll lp w ps)
    s'.ll = ll ∧ s'.lp = lp ∧ s'.w = w ∧ paramList cfg sh s' = some ps := by
  intro s'
  have h : s' = tableSample sh ll lp w ps := summaryRoundtrip_fromVector cfg ops wf ll lp w ps hlen hz
  rw [h]
  exact ⟨rfl, rfl, rfl, paramList_tableSample cfg wf hr ll lp w ps hlen⟩

/-- **Database rows.** Samples whose keys are as the `Sample` constructor leaves them and that all
carry the same key sequence (every `Sample.from_lists` list does) come back equal: same keys, same
order, same values, same likelihoods, priors and weights. -/
theorem efficient_roundtrip (ss : List (Sample V)) (hn : ∀ s ∈ ss, NormalKeys s)
    (hk : ∀ s ∈ ss, ∀ s' ∈ ss, s.kwargs.map (·.1) = s'.kwargs.map (·.1)) :
    (toEfficient ss).map ofEfficient = some ss := by
  cases ss with
  | nil => rfl
  | cons s0 rest =>
    have hkeys : ∀ s ∈ s0 :: rest, s0.kwargs.map (·.1) = s.kwargs.map (·.1) :=
      fun s hs => hk s0 (by simp) s hs
    rw [ofEfficient_toEfficient s0 rest (fun s => s.kwargs.map (·.2)) fun s hs => by
      rw [hkeys s hs]; exact mapOpt_dictGet_keys s.kwargs (hn s hs).1]
    exact congrArg some ((List.map_congr_left fun s hs => by
      rw [hkeys s hs]; exact mkSample_of_normal s (hn s hs)).trans (List.map_id' _))

/-- every sample built by the `Sample` constructor has keys as `efficient_roundtrip` wants them -/
theorem constructed_normal (ll lp w : V) (kw : List (Key × V)) : NormalKeys (mkSample ll lp w kw) :=
  mkSample_normal ll lp w kw

/-- **Database rows, keys in any order.** Samples that hold the same *set* of keys as the first one,
in whatever order (hand-built or concatenated sample lists), come back with the same likelihoods,
priors, weights, in the same order, and with the same looked-up parameter values (repaired
look-up, which does not depend on which key comes first). -/
theorem efficient_any_key_order (cfg : Cfg) (hc : cfg.keysNormalised = true) (sh : Shape)
    (s0 : Sample V) (rest : List (Sample V)) (hn : NormalKeys s0)
    (hset : ∀ s ∈ s0 :: rest, ∀ k, k ∈ s0.kwargs.map (·.1) ↔ k ∈ s.kwargs.map (·.1)) :
    ∃ ss', (toEfficient (s0 :: rest)).map ofEfficient = some ss' ∧
      ss'.map (·.ll) = (s0 :: rest).map (·.ll) ∧ ss'.map (·.lp) = (s0 :: rest).map (·.lp) ∧
      ss'.map (·.w) = (s0 :: rest).map (·.w) ∧
      mapOpt (paramList cfg sh) ss' = mapOpt (paramList cfg sh) (s0 :: rest) := by
  obtain ⟨g, hback, hsame⟩ := efficient_any_order s0 rest hn hset
  -- as in `csv_roundtrip`: what is mapped over the list keeps `ll`, `lp`, `w` by definition
  refine ⟨_, hback, List.map_map, List.map_map, List.map_map, ?_⟩
  rw [mapOpt_map]
  exact mapOpt_congr _ _ _ fun s hs => paramList_congr cfg hc sh _ s (hsame s hs)

/-- the samples of a fit meet the hypotheses of `efficient_roundtrip` -/
theorem from_lists_normal {sh : Shape} (wf : WF sh) (ll lp w : V) (ps : List V)
    (hlen : ps.length = sh.length) :
    NormalKeys (fromVector sh ll lp w ps) ∧
      (fromVector sh ll lp w ps).kwargs.map (·.1) = sh.map fun P => Key.path P.uniq :=
  ⟨mkSample_normal ll lp w _, by rw [fromVector_eq wf ll lp w ps hlen]; exact kwOf_keys sh ps (fun P => Key.path P.uniq) hlen⟩

/-- **Best fit.** Lists of samples with the same likelihoods and the same looked-up parameter
values have the same maximum-likelihood parameter vector (`max_log_likelihood`), whatever `>` does
with NaN. -/
theorem best_fit_preserved (cfg : Cfg) (ops : VOps V) (sh : Shape) (ss ss' : List (Sample V))
    (pss : List (List V)) (hll : ss'.map (·.ll) = ss.map (·.ll))
    (h' : mapOpt (paramList cfg sh) ss' = some pss) (h : mapOpt (paramList cfg sh) ss = some pss) :
    bestFit cfg ops sh ss' = bestFit cfg ops sh ss := by
  unfold bestFit maxLL
  rw [hll]
  cases argmaxFirst ops.gt (ss.map (·.ll)) with
  | none => rfl
  | some i =>
    simp only [Option.bind_some]
    rw [mapOpt_drop_head _ ss' pss i h', mapOpt_drop_head _ ss pss i h]

/-- **Medians, errors, any statistic**: whatever is computed from the parameter values, the
likelihoods, the priors and the weights is the same after reload. -/
theorem derived_equal {R : Type} (cfg : Cfg) (sh : Shape) (ss ss' : List (Sample V))
    (F : Option (List (List V)) → List V → List V → List V → R)
    (hll : ss'.map (·.ll) = ss.map (·.ll)) (hlp : ss'.map (·.lp) = ss.map (·.lp))
    (hw : ss'.map (·.w) = ss.map (·.w))
    (hp : mapOpt (paramList cfg sh) ss' = mapOpt (paramList cfg sh) ss) :
    F (mapOpt (paramList cfg sh) ss') (ss'.map (·.ll)) (ss'.map (·.lp)) (ss'.map (·.w)) =
      F (mapOpt (paramList cfg sh) ss) (ss.map (·.ll)) (ss.map (·.lp)) (ss.map (·.w)) := by
  rw [hll, hlp, hw, hp]

/-- table round trip, end to end: the best fit read from the loaded table is the fit's best fit -/
theorem csv_best_fit (cfg : Cfg) (ops : VOps V) {sh : Shape} (wf : WF sh) (hr : Route cfg sh)
    (pads : List Nat) (shw : V → T) (rd : T → V) (hrd : ∀ x, rd (shw x) = x)
    (ss : List (Sample V)) (tb : Table T) (hsave : saveCsv cfg ops sh pads shw ss = some tb) :
    (loadCsv rd tb).bind (bestFit cfg ops sh) = bestFit cfg ops sh ss := by
  obtain ⟨ss', pss, h1, h2, _, _, h5, h6⟩ := csv_roundtrip cfg ops wf hr pads shw rd hrd ss tb hsave
  rw [h1]
  exact best_fit_preserved cfg ops sh ss ss' pss h2 h5 h6

/-! ## the pinned behaviour violates the sentence: witnesses -/

def natOps : VOps Nat := { add := (· + ·), isZero := (· == 0), gt := fun a b => decide (a > b) }

/-- `Collection(x=prior, g=Model(.., a=prior))`: a parameter at the top level beside a nested one -/
def mixed : Shape :=
  [{ paths := [[['x']]], names := [['x']], uniq := [['x']] },
   { paths := [[['g'], ['a']]], names := [['g', '.', 'a']], uniq := [['g'], ['a']] }]

/-- the same with both parameters nested -/
def nested : Shape :=
  [{ paths := [[['h'], ['x']]], names := [['h', '.', 'x']], uniq := [['h'], ['x']] },
   { paths := [[['g'], ['a']]], names := [['g', '.', 'a']], uniq := [['g'], ['a']] }]

def pinned : Cfg := { keysNormalised := false, dictKeepsFalsy := false }

/-- With the pinned look-up the table of a mixed-depth model cannot be read back (`KeyError`),
although the fit wrote it and the samples were fine. -/
theorem csv_refuted_when_keys_off :
    WF mixed ∧
    mapOpt (paramList pinned mixed) [fromVector mixed 5 1 1 [7, 8]] = some [[7, 8]] ∧
    ((saveCsv pinned natOps mixed [2, 0] id [fromVector mixed 5 1 1 [7, 8]]).bind (loadCsv id)).bind
      (mapOpt (paramList pinned mixed)) = none := by
  decide +kernel

/-- With the pinned dictionary reader a best-fit value equal to zero is lost from the summary. -/
theorem summary_refuted_when_falsy_off :
    WF nested ∧
    paramList pinned nested (fromVector nested 5 1 1 [0, 8]) = some [0, 8] ∧
    paramList pinned nested (summaryRoundtrip pinned natOps (fromVector nested 5 1 1 [0, 8])) = none := by
  decide +kernel

/-! ## non-vacuity: concrete inputs meeting every hypothesis -/

/-- shared prior with two places, a tuple member, a top-level parameter; repaired behaviour -/
def witness : Shape :=
  [{ paths := [[['x']]], names := [['x']], uniq := [['x']] },
   { paths := [[['g'], ['a']], [['h'], ['b']]], names := [['g', '.', 'a'], ['h', '.', 'b']], uniq := [['h'], ['b']] },
   { paths := [[['g'], ['p'], ['p', '_', '0']]], names := [['g', '.', 'p', '_', '0']], uniq := [['g'], ['p'], ['p', '_', '0']] }]

example : WF witness ∧ Route {} witness ∧ WF mixed ∧ Route {} mixed ∧ Route pinned nested := by decide +kernel

example : (saveCsv {} natOps witness [1, 0, 3] id
      [fromVector witness 5 1 2 [0, 8, 9], fromVector witness 6 1 2 [3, 0, 4]]).isSome = true := by decide +kernel
example : ((saveCsv {} natOps witness [1, 0, 3] id
      [fromVector witness 5 1 2 [0, 8, 9], fromVector witness 6 1 2 [3, 0, 4]]).bind (loadCsv id)).bind
      (mapOpt (paramList {} witness)) = some [[0, 8, 9], [3, 0, 4]] := by decide +kernel
example : paramList {} witness (summaryRoundtrip {} natOps (fromVector witness 5 1 2 [0, 8, 9])) = some [0, 8, 9] := by
  decide +kernel
example : bestFit {} natOps witness
      [fromVector witness 5 1 2 [0, 8, 9], fromVector witness 6 1 2 [3, 0, 4], fromVector witness 6 1 2 [1, 1, 1]]
      = some [3, 0, 4] := by decide +kernel
example : ((toEfficient [mkSample 5 1 2 [(.str ['x'], 0), (.str ['h', '.', 'b'], 8), (.path [['g'], ['p'], ['p', '_', '0']], 9)],
      mkSample 6 1 2 [(.path [['g'], ['p'], ['p', '_', '0']], 4), (.str ['x'], 3), (.path [['h'], ['b']], 0)]]).map ofEfficient).bind
      (mapOpt (paramList {} witness)) = some [[0, 8, 9], [3, 0, 4]] := by decide +kernel
example : (toEfficient [fromVector witness 5 1 2 [0, 8, 9], fromVector witness 6 1 2 [3, 0, 4]]).map ofEfficient =
    some [fromVector witness 5 1 2 [0, 8, 9], fromVector witness 6 1 2 [3, 0, 4]] := by decide +kernel

/-! ## estimates: the modelled computation (`AF.SamplesStats`) -/

open AF.SamplesStats

/-- **Weighted quantile** (`pdf.quantile`): for samples in any order - the same multiset of
(value, weight) pairs - the result is the same, provided no value occurs twice. -/
theorem quantile_order_free (q : Rat) (vw₁ vw₂ : List (Rat × Rat)) (hp : vw₁.Perm vw₂)
    (hnd : (vw₁.map (·.1)).Nodup) : wquantile q vw₁ = wquantile q vw₂ := by
  -- pairs with pairwise different values are told apart by their value, on which `≤` is antisymmetric
  unfold wquantile
  rw [sortVW_eq, sortVW_eq, sortBy_eq_of_perm_of_nodup (fun a b : Rat × Rat => a.1 ≤ b.1) (·.1)
    (fun _ _ => Rat.le_total) (fun _ _ _ => Rat.le_trans) (fun _ _ => Rat.le_antisymm) hp hnd]

/-- The guard of `quantile_order_free` is needed: when a value repeats, which of the two samples the
sort puts first decides the result (numpy's `argsort` does not promise either). -/
theorem quantile_refuted_repeated_value :
    [((1 : Rat), (1 / 10 : Rat)), (1, 4 / 10), (2, 3 / 10), (3, 2 / 10)].Perm [(1, 4 / 10), (1, 1 / 10), (2, 3 / 10), (3, 2 / 10)] ∧
    wquantile (1 / 2) [(1, 1 / 10), (1, 4 / 10), (2, 3 / 10), (3, 2 / 10)] ≠
      wquantile (1 / 2) [(1, 4 / 10), (1, 1 / 10), (2, 3 / 10), (3, 2 / 10)] := by
  refine ⟨List.Perm.swap _ _ _, ?_⟩
  decide +kernel

/-- **Percentile** (`np.percentile`, MCMC samples): a function of the multiset of values. -/
theorem percentile_order_free (p : Rat) (xs₁ xs₂ : List Rat) (hp : xs₁.Perm xs₂) :
    percentile p xs₁ = percentile p xs₂ := by
  unfold percentile
  rw [sortR_eq, sortR_eq, sortBy_eq_of_perm (fun a b : Rat => a ≤ b) (fun _ _ => Rat.le_total)
    (fun _ _ _ => Rat.le_trans) (fun _ _ _ _ => Rat.le_antisymm) hp]

/-- **Median and values at sigma of one parameter, converged samples**: the same for every order of
the samples (pairs of value and weight permuted together), provided no value repeats. The
unconverged branch reads the most likely sample and the last `ucs` samples: it is a function of the
sequence, which every reload preserves (`estimates_preserved`). -/
theorem estimate_converged_order_free (ucs : Nat) (qlow : Rat) (lls₁ lls₂ ws₁ ws₂ col₁ col₂ : List Rat)
    (hc₁ : converged ws₁ = true) (hc₂ : converged ws₂ = true)
    (hp : (col₁.zip ws₁).Perm (col₂.zip ws₂)) (hnd : ((col₁.zip ws₁).map (·.1)).Nodup) :
    colEstimate ucs qlow lls₁ ws₁ col₁ = colEstimate ucs qlow lls₂ ws₂ col₂ := by
  unfold colEstimate
  simp only [hc₁, hc₂, if_true]
  rw [quantile_order_free _ _ _ hp hnd, quantile_order_free _ _ _ hp hnd, quantile_order_free _ _ _ hp hnd]

example : converged [3 / 10, 5 / 10, 2 / 10] = true ∧ converged [2 / 10, 3 / 10, 5 / 10] = true ∧
    ([(7 : Rat), 2, 9].zip [(3 / 10 : Rat), 5 / 10, 2 / 10]).Perm ([(9 : Rat), 7, 2].zip [(2 / 10 : Rat), 3 / 10, 5 / 10]) ∧
    (([(7 : Rat), 2, 9].zip [(3 / 10 : Rat), 5 / 10, 2 / 10]).map (·.1)).Nodup ∧
    colEstimate 100 (1 / 10) [1, 2, 3] [3 / 10, 5 / 10, 2 / 10] [7, 2, 9] = some ⟨6, 14 / 5, 127 / 15⟩ := by
  decide +kernel

/-- **Estimates after reload.** Samples with the same likelihoods, weights and looked-up parameter
values have the same median / values / errors at sigma (`SamplesPDF`, both branches) and the same
MCMC estimates. -/
theorem estimates_preserved (cfg : Cfg) (ucs : Nat) (qlow : Rat) (sh : Shape) (ss ss' : List (Sample Rat))
    (hll : ss'.map (·.ll) = ss.map (·.ll)) (hw : ss'.map (·.w) = ss.map (·.w))
    (hp : mapOpt (paramList cfg sh) ss' = mapOpt (paramList cfg sh) ss) :
    estimates cfg ucs qlow sh ss' = estimates cfg ucs qlow sh ss ∧
      estimatesMCMC cfg qlow sh ss' = estimatesMCMC cfg qlow sh ss := by
  unfold estimates estimatesMCMC
  rw [hll, hw, hp]
  exact ⟨rfl, rfl⟩

/-- table round trip, end to end: the estimates computed from the loaded table are the fit's -/
theorem csv_estimates (cfg : Cfg) (ops : VOps Rat) (ucs : Nat) (qlow : Rat) {sh : Shape} (wf : WF sh)
    (hr : Route cfg sh) (pads : List Nat) (shw : Rat → T) (rd : T → Rat) (hrd : ∀ x, rd (shw x) = x)
    (ss : List (Sample Rat)) (tb : Table T) (hsave : saveCsv cfg ops sh pads shw ss = some tb) :
    (loadCsv rd tb).bind (estimates cfg ucs qlow sh) = estimates cfg ucs qlow sh ss ∧
      (loadCsv rd tb).bind (estimatesMCMC cfg qlow sh) = estimatesMCMC cfg qlow sh ss := by
  obtain ⟨ss', pss, h1, h2, _, h4, h5, h6⟩ := csv_roundtrip cfg ops wf hr pads shw rd hrd ss tb hsave
  rw [h1]
  exact estimates_preserved cfg ucs qlow sh ss ss' h2 h4 (h5.trans h6.symm)

/-- **Estimates follow the parameters.** A model listing the same parameters in another order
(`reorder idx sh`: what comes back from `model.json` / the database) gives, recomputed from the same
samples, for its parameter `k` the estimate the fitted model has for its parameter `idx[k]`: per
parameter path nothing changes. Holds for any per-column statistic. -/
theorem estimates_follow_parameters {R} (cfg : Cfg) (stat : List Rat → Option R) (sh : Shape)
    (ss : List (Sample Rat)) (rows : List (List Rat)) (h : mapOpt (paramList cfg sh) ss = some rows)
    (idx : List Nat) (hidx : ∀ i ∈ idx, i < sh.length) :
    (mapOpt (paramList cfg (reorder idx sh)) ss).map (perColumn (reorder idx sh).length stat) =
      some (permuteRow idx (perColumn sh.length stat rows)) := by
  rw [mapOpt_imp (permuteRow idx) (paramList_reorder cfg sh idx hidx) ss rows h]
  simp only [Option.map_some, reorder, List.length_map]
  rw [perColumn_permute stat sh.length idx hidx rows]

/-- **The lists stored in the summary, read by position** (`errors_at_sigma_1`, `values_at_sigma_3`, …:
plain lists in the fitted model's order). Entry `k`, attributed to parameter `k` of the attached
model, is that parameter's estimate whenever the attached model lists parameter `k` where the fitted
model does (`idx[k] = k`); in general it is the estimate of the fitted model's parameter `k`, while
parameter `k` of the attached model is the fitted model's parameter `idx[k]`. -/
theorem summary_lists_partial (cfg : Cfg) (ucs : Nat) (qlow : Rat) (sh : Shape) (ss : List (Sample Rat))
    (stored : List (Option Est)) (hst : estimates cfg ucs qlow sh ss = some stored)
    (idx : List Nat) (hidx : ∀ i ∈ idx, i < sh.length) :
    ∃ fresh, estimates cfg ucs qlow (reorder idx sh) ss = some fresh ∧
      (∀ k (hk : k < idx.length), fresh[k]? = stored[idx[k]]?) ∧
      (∀ k (hk : k < idx.length), idx[k] = k → attributed stored k = fresh[k]?) := by
  unfold estimates at hst
  cases hrows : mapOpt (paramList cfg sh) ss with
  | none => rw [hrows] at hst; cases hst
  | some rows =>
    rw [hrows] at hst
    cases hst
    have key := estimates_follow_parameters cfg
      (colEstimate ucs qlow (ss.map (·.ll)) (ss.map (·.w))) sh ss rows hrows idx hidx
    exact ⟨_, key, attributed_permuteRow _ idx (by simpa [perColumn] using hidx)⟩

/-- the attached model lists the parameters as the fitted one did: nothing is reordered, every entry of
the stored lists is attributed to its own parameter (`summary_lists_partial` with `idx[k] = k`) -/
theorem reorder_same_order (sh : Shape) : reorder (List.range sh.length) sh = sh := by
  unfold reorder
  apply List.ext_getElem
  · simp
  · intro k h1 h2
    simp [List.getD, h2]

/-- two parameters, three converged samples -/
def twoParams : Shape :=
  [{ paths := [[['g'], ['a']]], names := [['g', '.', 'a']], uniq := [['g'], ['a']] },
   { paths := [[['g'], ['b']]], names := [['g', '.', 'b']], uniq := [['g'], ['b']] }]

def threeSamples : List (Sample Rat) :=
  [fromVector twoParams 1 0 (3 / 10) [7, 70], fromVector twoParams 2 0 (5 / 10) [2, 20],
   fromVector twoParams 3 0 (2 / 10) [9, 90]]

/-- Known finding `C09-summary-lists-model-order`: when the attached model lists the two parameters
the other way round, the stored list read by position attributes to each parameter the estimate of
the other one, although recomputing from the reloaded samples gives the right one. -/
theorem summary_lists_refuted_when_reordered :
    WF twoParams ∧
    ∃ stored fresh, estimates {} 100 (1 / 10) twoParams threeSamples = some stored ∧
      estimates {} 100 (1 / 10) (reorder [1, 0] twoParams) threeSamples = some fresh ∧
      attributed stored 0 ≠ fresh[0]? ∧ attributed stored 0 = fresh[1]? := by
  refine ⟨by decide +kernel, [some ⟨6, 14 / 5, 127 / 15⟩, some ⟨60, 28, 254 / 3⟩],
    [some ⟨60, 28, 254 / 3⟩, some ⟨6, 14 / 5, 127 / 15⟩], ?_⟩
  decide +kernel

example : estimates {} 100 (1 / 10) twoParams threeSamples =
    some [some ⟨6, 14 / 5, 127 / 15⟩, some ⟨60, 28, 254 / 3⟩] := by decide +kernel

example : estimatesMCMC {} (3 / 10) twoParams threeSamples =
    some [some ⟨7, 5, 39 / 5⟩, some ⟨70, 50, 78⟩] := by decide +kernel

-- non-vacuity: the hypotheses of `csv_estimates`, `estimates_follow_parameters`, `summary_lists_partial`,
-- `quantile_order_free` are met by concrete inputs, and the conclusions are not trivially `none = none`
example : mapOpt (paramList {} twoParams) threeSamples = some [[7, 70], [2, 20], [9, 90]] ∧
    (∀ i ∈ [1, 0], i < twoParams.length) ∧ Route {} twoParams := by decide +kernel
example : (saveCsv {} ratOps twoParams [0, 2] id threeSamples).isSome = true := by decide +kernel
example : ((saveCsv {} ratOps twoParams [0, 2] id threeSamples).bind (loadCsv id)).bind (estimates {} 100 (1 / 10) twoParams) =
    some [some ⟨6, 14 / 5, 127 / 15⟩, some ⟨60, 28, 254 / 3⟩] := by decide +kernel
example : estimates {} 100 (1 / 10) (reorder [1, 0] twoParams) threeSamples =
    some [some ⟨60, 28, 254 / 3⟩, some ⟨6, 14 / 5, 127 / 15⟩] := by decide +kernel
example : [((7 : Rat), (3 / 10 : Rat)), (2, 5 / 10), (9, 2 / 10)].Perm [(9, 2 / 10), (7, 3 / 10), (2, 5 / 10)] ∧
    ([((7 : Rat), (3 / 10 : Rat)), (2, 5 / 10), (9, 2 / 10)].map (·.1)).Nodup ∧
    wquantile (1 / 2) [(9, 2 / 10), (7, 3 / 10), (2, 5 / 10)] = some 6 := by
  decide +kernel
-- unconverged branch: entry of the most likely sample, range of the last `ucs` samples
example : colEstimate 2 (1 / 10) [1, 5, 3] [1, 0, 0] [7, 2, 9] = some ⟨2, 2, 9⟩ := by decide +kernel

/-- **Minimised samples** (`Samples.minimise`, what the database keeps of a fit unless asked for all):
they are the most likely and the most probable sample, nothing else. -/
theorem minimise_keeps_best (ops : VOps V) (ss : List (Sample V)) (hne : ss ≠ []) :
    ∃ i j, argmaxFirst ops.gt (ss.map (·.ll)) = some i ∧ maxPostIndex ops ss = some j ∧
      i ∈ minimiseIdx ops ss ∧ j ∈ minimiseIdx ops ss ∧ ∀ k ∈ minimiseIdx ops ss, k = i ∨ k = j := by
  cases ss with
  | nil => exact absurd rfl hne
  | cons s rest =>
    refine ⟨_, _, rfl, rfl, ?_⟩
    unfold minimiseIdx maxPostIndex
    simp only [List.map_cons, argmaxFirst]
    generalize argmaxGo ops.gt (List.map (fun x => x.ll) rest) 1 0 s.ll = i
    generalize argmaxGo ops.gt (List.map (fun s => ops.add s.ll s.lp) rest) 1 0 (ops.add s.ll s.lp) = j
    by_cases hij : i = j
    · simp [hij]
    · by_cases hlt : i < j <;> simp [hij, hlt] <;> omega

example : minimiseIdx natOps [mkSample 5 1 1 [], mkSample 6 0 1 [], mkSample 2 9 (1 : Nat) []] = [1, 2] := by decide +kernel

end AF.C09
