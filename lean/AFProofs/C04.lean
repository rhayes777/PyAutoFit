import AFModel.Fitness
import AFProofs.C03
import AFModel.FloatOps
import AFModel.SearchTable
import AFModel.Generated.C04
import AFModel.LogPrior
import AFModel.ResumeCheck
import AFProofs.Lemmas.LogPrior

/-!
# C04 — the figure of merit handed to a search

Theorems about `fitnessCall` / `runCalls` / `pyswarmsBatch` (`AFModel/Fitness.lean`) for every
model gate `g`, log-prior function `lp`, flag combination, resample value, state and call sequence.
Combined with C03's `gate_ok_iff`, "`g v = .ok _`" means: right length, inside limits, all assertions true.
-/

namespace AF.C04
open AF

variable {V : Type}

/-- **Success.** instance built and likelihood `ll` (not NaN): the figure of merit is `ll`, plus the
sum of the log-prior terms in posterior mode, times −2 in chi-squared mode — for all eight flag
combinations (the three flags are universally quantified inside `cfg`). -/
theorem fom_on_success (fo : FomOps V) (cfg : FitCfg V) (g) (lp) (st : FitSt V) (v : List V) (i : Inst V)
    (ll : V) (hg : g v = .ok i) :
    (fitnessCall fo cfg g lp st v (.fin ll)).1 =
      .value (let fom := if cfg.fomIsLL then ll else fo.add ll (pySum fo (lp v))
              if cfg.convertChi then fo.mulNeg2 fom else fom) := by
  simp [fitnessCall, hg]

/-- **Resample.** vector outside limits / violating an assertion, likelihood raising the fit
exception or returning NaN: the search receives its resample value and the state is unchanged. -/
theorem resample_on_failure (fo : FomOps V) (cfg : FitCfg V) (g) (lp) (st : FitSt V) (v : List V)
    (o : Outcome V)
    (h : (∃ e, g v = .error e ∧ e ≠ .length) ∨ (∃ i, g v = .ok i ∧ (o = .nan ∨ o = .raisesFit))) :
    fitnessCall fo cfg g lp st v o = (.value cfg.resample, st) := by
  rcases h with ⟨e, he, hne⟩ | ⟨i, hi, ho⟩
  · cases e <;> simp_all [fitnessCall]
  · rcases ho with rfl | rfl <;> simp [fitnessCall, hi]

/-- **No escape.** An exception leaves the call only for a wrong-length vector or when the
likelihood raises something that is not the fit exception. -/
theorem raises_iff (fo : FomOps V) (cfg : FitCfg V) (g) (lp) (st : FitSt V) (v : List V) (o : Outcome V) :
    (∃ st', fitnessCall fo cfg g lp st v o = (.raises, st')) ↔
      (g v = .error .length ∨ ((∃ i, g v = .ok i) ∧ o = .raisesOther)) := by
  unfold fitnessCall
  cases g v with
  | error e => cases e <;> simp
  | ok i => cases o <;> simp

/-- **Repeatable.** The value returned does not depend on the state (history, earlier calls). -/
theorem repeatable (fo : FomOps V) (cfg : FitCfg V) (g) (lp) (st₁ st₂ : FitSt V) (v : List V) (o : Outcome V) :
    (fitnessCall fo cfg g lp st₁ v o).1 = (fitnessCall fo cfg g lp st₂ v o).1 := by
  unfold fitnessCall
  cases g v with
  | error e => cases e <;> rfl
  | ok i => cases o <;> rfl

theorem history_step [Inhabited V] (fo : FomOps V) (cfg : FitCfg V) (g) (lp) (st : FitSt V) (c : List V × Outcome V) :
    (fitnessCall fo cfg g lp st c.1 c.2).2.params =
        st.params ++ (if cfg.storeHistory && succeeded g c then [c.1] else []) ∧
    (fitnessCall fo cfg g lp st c.1 c.2).2.lls =
        st.lls ++ (if cfg.storeHistory && succeeded g c then [llOf c] else []) := by
  obtain ⟨v, o⟩ := c
  unfold fitnessCall succeeded llOf
  cases g v with
  | error e => cases e <;> simp
  | ok i =>
    cases o with
    | fin ll => cases cfg.storeHistory <;> simp
    | _ => simp

/-- **History.** After any sequence of calls the history holds exactly the successfully evaluated
vectors with their likelihoods, in order (and nothing when disabled). -/
theorem history_exact [Inhabited V] (fo : FomOps V) (cfg : FitCfg V) (g) (lp) :
    ∀ (calls : List (List V × Outcome V)) (st : FitSt V),
      (runCalls fo cfg g lp st calls).2.params =
          st.params ++ (if cfg.storeHistory then (calls.filter (succeeded g)).map (·.1) else []) ∧
      (runCalls fo cfg g lp st calls).2.lls =
          st.lls ++ (if cfg.storeHistory then (calls.filter (succeeded g)).map llOf else []) := by
  intro calls
  induction calls with
  | nil => simp [runCalls]
  | cons c rest ih =>
    intro st
    have hs := history_step fo cfg g lp st c
    have ih := ih (fitnessCall fo cfg g lp st c.1 c.2).2
    obtain ⟨v, o⟩ := c
    simp only [runCalls]
    rw [ih.1, ih.2, hs.1, hs.2, List.filter_cons]
    cases cfg.storeHistory <;> cases succeeded g (v, o) <;> simp

theorem run_results (fo : FomOps V) (cfg : FitCfg V) (g) (lp) :
    ∀ (calls : List (List V × Outcome V)) (st : FitSt V),
      (runCalls fo cfg g lp st calls).1 = calls.map (fun c => (fitnessCall fo cfg g lp {} c.1 c.2).1) := by
  intro calls
  induction calls with
  | nil => exact fun _ => rfl
  | cons c rest ih =>
    intro st
    simp only [runCalls, List.map_cons]
    rw [ih, repeatable fo cfg g lp st {} c.1 c.2]

/-- **Particle swarms.** one figure of merit per particle, in order; each is `-2·(ll + Σ priors)`
or `-2·resample` on any failure / NaN. -/
theorem pyswarms_length (fo : FomOps V) (cfg : FitCfg V) (g) (lp) (ps : List (List V × Outcome V)) :
    (pyswarmsBatch fo cfg g lp ps).length = ps.length := by
  simp [pyswarmsBatch]

theorem pyswarms_particle_success (fo : FomOps V) (cfg : FitCfg V) (g) (lp) (v : List V) (i : Inst V) (ll : V)
    (hg : g v = .ok i) (hn : fo.isNaN (fo.mulNeg2 (fo.add ll (pySum fo (lp v)))) = false) :
    pyswarmsParticle fo cfg g lp v (.fin ll) = .value (fo.mulNeg2 (fo.add ll (pySum fo (lp v)))) := by
  simp [pyswarmsParticle, hg, hn]

theorem pyswarms_particle_failure (fo : FomOps V) (cfg : FitCfg V) (g) (lp) (v : List V) (o : Outcome V)
    (h : (∃ e, g v = .error e ∧ e ≠ .length) ∨ (∃ i, g v = .ok i ∧ (o = .nan ∨ o = .raisesFit))) :
    pyswarmsParticle fo cfg g lp v o = .value (fo.mulNeg2 cfg.resample) := by
  rcases h with ⟨e, he, hne⟩ | ⟨i, hi, ho⟩
  · cases e <;> simp_all [pyswarmsParticle]
  · rcases ho with rfl | rfl <;> simp [pyswarmsParticle, hi]

/-- the swarm variant lets exactly the same exceptions through as the plain one -/
theorem pyswarms_raises_iff (fo : FomOps V) (cfg : FitCfg V) (g) (lp) (v : List V) (o : Outcome V) :
    pyswarmsParticle fo cfg g lp v o = .raises ↔
      (g v = .error .length ∨ ((∃ i, g v = .ok i) ∧ o = .raisesOther)) := by
  unfold pyswarmsParticle
  cases g v with
  | error e => cases e <;> simp
  | ok i =>
    cases o with
    | fin ll => cases hn : fo.isNaN (fo.mulNeg2 (fo.add ll (pySum fo (lp v)))) <;> simp [hn]
    | _ => simp

def intFom : FomOps Int := { add := (· + ·), mulNeg2 := (· * -2), zero := 0, isNaN := fun _ => false }
def cfg₀ : FitCfg Int := { fomIsLL := false, convertChi := true, storeHistory := true, resample := -1000 }
def g₀ : List Int → Except GateErr (Inst Int) := fun v =>
  if v.length ≠ 2 then .error .length else if v.all (· ≥ 0) then .ok (.tup []) else .error .priorLimit

example : (runCalls intFom cfg₀ g₀ (fun v => v) {} [([1, 2], .fin 10), ([-1, 2], .fin 3), ([3, 4], .nan), ([5, 6], .fin 7)]).2.params
    = [[1, 2], [5, 6]] := by decide
example : (fitnessCall intFom cfg₀ g₀ (fun v => v) {} [1, 2] (.fin 10)).1 = .value (-26) := by rfl
example : (fitnessCall intFom cfg₀ g₀ (fun v => v) {} [-1, 2] (.fin 10)).1 = .value (-1000) := by rfl

/-- C03 and C04 composed: with the model's real gate, a search receives the likelihood-based figure
of merit exactly for vectors of the right length that are inside every limit and satisfy every
assertion, and the resample value for every other vector of the right length. -/
theorem fom_with_model_gate [Inhabited V] (ops : Ops V) (fo : FomOps V) (cfg : FitCfg V)
    (t : Node V) (lims : List (V × V)) (asserts : List (Asrt V)) (lp) (st : FitSt V) (v : List V) (ll : V)
    (hl : v.length = count t) :
    (fitnessCall fo cfg (fun v => gate ops t lims asserts v false) lp st v (.fin ll)).1 =
      if limitsOk ops lims v = true ∧ (∀ a ∈ asserts, evalA ops (valOf (argsOfVector t v)) a = true) then
        .value (let fom := if cfg.fomIsLL then ll else fo.add ll (pySum fo (lp v))
                if cfg.convertChi then fo.mulNeg2 fom else fom)
      else .value cfg.resample := by
  have fail (e : GateErr) (he : e ≠ .length) (hg : gate ops t lims asserts v false = .error e) :
      (fitnessCall fo cfg (fun v => gate ops t lims asserts v false) lp st v (.fin ll)).1 = .value cfg.resample :=
    congrArg Prod.fst (resample_on_failure fo cfg _ lp st v _ (.inl ⟨e, hg, he⟩))
  by_cases hlim : limitsOk ops lims v = true
  · by_cases ha : ∀ a ∈ asserts, evalA ops (valOf (argsOfVector t v)) a = true
    · rw [if_pos ⟨hlim, ha⟩]
      exact fom_on_success fo cfg _ lp st v _ ll ((C03.gate_ok_iff ops t lims asserts v _).mpr ⟨hl, hlim, ha, rfl⟩)
    · rw [if_neg (fun h => ha h.2)]
      exact fail .fit (by decide) ((C03.gate_fit_iff ops t lims asserts v).mpr
        ⟨hl, hlim, by rwa [← Bool.not_eq_true, List.all_eq_true]⟩)
  · rw [if_neg (fun h => hlim h.1)]
    exact fail .priorLimit (by decide) (C03.gate_limit_error ops t lims asserts v hl (by simpa using hlim))

/-! ## every search class: the figure of merit its own fitness object hands to it

`Generated.C04.searchRows` is regenerated from `autofit/non_linear/search/**` before every build
(`harness/tables_c04.py`); the driver answers "which flags does search X use" from the same table
(`findRow`), and the harness compares the table with the source and with the fitness objects real
searches build. The `row_*` theorems hold for *any* row, the `table_*` theorems instantiate them
over the rows of the present source tree and add what only a concrete table can say: that every
search's resample value is the designated one. -/

/-- **Success, per row.** the instance is built and the likelihood is `ll`: a search of this row
receives `ll`, plus the prior sum when it works in posterior space, times −2 when it minimises.
(`FitnessPySwarms` re-checks the *result* for NaN: `hn`.) -/
theorem row_fom_on_success (fo : FomOps Float) (r : SearchRow) (hist : Bool) (g) (lp) (st : FitSt Float)
    (v : List Float) (i : Inst Float) (ll : Float) (hg : g v = .ok i)
    (hn : r.fitnessClass = .pyswarms → fo.isNaN (fo.mulNeg2 (fo.add ll (pySum fo (lp v)))) = false) :
    (rowCall fo r hist g lp st v (.fin ll)).1 = .value (rowFom fo r ll (pySum fo (lp v))) := by
  unfold rowCall rowFom SearchRow.posterior SearchRow.minimises
  cases hc : r.fitnessClass with
  | plain =>
    rw [fom_on_success fo (rowCfg r hist) g lp st v i ll hg]
    cases h1 : r.fomIsLL <;> cases h2 : r.convertChi <;> simp [rowCfg, h1, h2]
  | pyswarms =>
    rw [pyswarms_particle_success fo (rowCfg r hist) g lp v i ll hg (hn hc)]
    simp

/-- **Resample, per row.** a vector outside limits / violating an assertion, the fit exception or
NaN: the search receives `rowResample` (its resample value; `-2 ×` it for the swarm variant) and
nothing is recorded. -/
theorem row_resample_on_failure (fo : FomOps Float) (r : SearchRow) (hist : Bool) (g) (lp) (st : FitSt Float)
    (v : List Float) (o : Outcome Float)
    (h : (∃ e, g v = .error e ∧ e ≠ .length) ∨ (∃ i, g v = .ok i ∧ (o = .nan ∨ o = .raisesFit))) :
    rowCall fo r hist g lp st v o = (.value (rowResample fo r), st) := by
  unfold rowCall rowResample
  cases r.fitnessClass with
  | plain => rw [resample_on_failure fo (rowCfg r hist) g lp st v o h]; rfl
  | pyswarms => rw [pyswarms_particle_failure fo (rowCfg r hist) g lp v o h]; rfl

/-- **No escape, per row.** -/
theorem row_raises_iff (fo : FomOps Float) (r : SearchRow) (hist : Bool) (g) (lp) (st : FitSt Float)
    (v : List Float) (o : Outcome Float) :
    (∃ st', rowCall fo r hist g lp st v o = (.raises, st')) ↔
      (g v = .error .length ∨ ((∃ i, g v = .ok i) ∧ o = .raisesOther)) := by
  unfold rowCall
  cases r.fitnessClass with
  | plain => exact raises_iff fo (rowCfg r hist) g lp st v o
  | pyswarms =>
    rw [← pyswarms_raises_iff fo (rowCfg r hist) g lp v o]
    constructor
    · rintro ⟨st', h⟩; exact congrArg Prod.fst h
    · intro h; exact ⟨st, by rw [h]⟩

theorem rowRun_plain (fo : FomOps Float) (r : SearchRow) (hist : Bool) (g) (lp) (hc : r.fitnessClass = .plain) :
    ∀ (calls : List (List Float × Outcome Float)) (st : FitSt Float),
      rowRun fo r hist g lp st calls = runCalls fo (rowCfg r hist) g lp st calls := by
  intro calls
  induction calls with
  | nil => simp [rowRun, runCalls]
  | cons c rest ih =>
    intro st
    simp only [rowRun, runCalls, rowCall, hc]
    rw [ih]

/-- the swarm variant never touches the history lists -/
theorem rowRun_pyswarms_state (fo : FomOps Float) (r : SearchRow) (hist : Bool) (g) (lp) (hc : r.fitnessClass = .pyswarms) :
    ∀ (calls : List (List Float × Outcome Float)) (st : FitSt Float), (rowRun fo r hist g lp st calls).2 = st := by
  intro calls
  induction calls with
  | nil => simp [rowRun]
  | cons c rest ih =>
    intro st
    simp only [rowRun, rowCall, hc]
    exact ih st

/-- **History, per row**, for any interleaving of successful and failing calls: a plain fitness
object whose `store_history` is on (a literal `True`, or a dynamic argument that evaluated to true)
holds exactly the successfully evaluated vectors with their likelihoods, in order; every other
fitness object holds nothing. -/
theorem row_history_exact (fo : FomOps Float) (r : SearchRow) (hist : Bool) (g) (lp)
    (calls : List (List Float × Outcome Float)) :
    (rowRun fo r hist g lp {} calls).2.params =
        (if r.fitnessClass = .plain ∧ r.storeHistory hist = true then (calls.filter (succeeded g)).map (·.1) else []) ∧
    (rowRun fo r hist g lp {} calls).2.lls =
        (if r.fitnessClass = .plain ∧ r.storeHistory hist = true then (calls.filter (succeeded g)).map llOf else []) := by
  cases hc : r.fitnessClass with
  | plain =>
    rw [rowRun_plain fo r hist g lp hc]
    have h := history_exact fo (rowCfg r hist) g lp calls {}
    rw [h.1, h.2]
    cases hs : r.storeHistory hist <;> simp [rowCfg, hs]
  | pyswarms =>
    rw [rowRun_pyswarms_state fo r hist g lp hc]
    simp

/-- the driver's lookup answers with a row of the table that carries the asked name -/
theorem findRow_mem (rows : List SearchRow) (name : String) (r : SearchRow) (h : findRow rows name = some r) :
    r ∈ rows ∧ r.name = name := by
  unfold findRow at h
  exact ⟨List.mem_of_find?_eq_some h, by simpa using List.find?_some h⟩

/-- **Designated resample value, every search class of the source tree.** What a search receives
for a vector that cannot be evaluated is `≥ 1e99` when it minimises and `≤ -1e99` when it maximises
(so never better than an evaluated vector), nested samplers work in likelihood space, MCMC and
maximum-likelihood searches in posterior space, and the flags given to the swarm variant say what it
does. Checked by evaluation of the regenerated table: a search whose flags change changes this
obligation. -/
theorem table_designated : ∀ r ∈ Generated.C04.searchRows, rowDesignated floatFom r = true := by
  decide +kernel

/-- the defaults of `Fitness.__init__` are themselves a designated combination (likelihood space,
maximised, `-inf` on failure) -/
theorem table_defaults_designated : rowDesignated floatFom Generated.C04.defaultRow = true := by
  decide +kernel

/-- **The property's sentence for every search class of the source tree.** -/
theorem table_contract (r : SearchRow) (hr : r ∈ Generated.C04.searchRows) (hist : Bool) (g) (lp)
    (st : FitSt Float) (v : List Float) (o : Outcome Float) :
    (∀ i ll, g v = .ok i → o = .fin ll →
        (r.fitnessClass = .pyswarms → floatFom.isNaN (floatFom.mulNeg2 (floatFom.add ll (pySum floatFom (lp v)))) = false) →
        (rowCall floatFom r hist g lp st v o).1 = .value (rowFom floatFom r ll (pySum floatFom (lp v)))) ∧
    (((∃ e, g v = .error e ∧ e ≠ .length) ∨ (∃ i, g v = .ok i ∧ (o = .nan ∨ o = .raisesFit))) →
        rowCall floatFom r hist g lp st v o = (.value (rowResample floatFom r), st)) ∧
    rowResampleWorst floatFom r = true := by
  refine ⟨?_, ?_, ?_⟩
  · intro i ll hg ho hn
    subst ho
    exact row_fom_on_success floatFom r hist g lp st v i ll hg hn
  · exact row_resample_on_failure floatFom r hist g lp st v o
  · have h := table_designated r hr
    simp only [rowDesignated, Bool.and_eq_true] at h
    exact h.1.1

example : Generated.C04.searchRows.length > 0 := by decide

/-- seeded change C04-m10: the swarm search given `+inf`, which its fitness class multiplies by −2 -/
def swarmPlusInfRow : SearchRow :=
  { name := "PySwarmsGlobal", family := .mle, owner := "AbstractPySwarms", fitnessClass := .pyswarms,
    fomIsLL := false, convertChi := true, history := .off,
    resampleBits := 0x7ff0000000000000, passesPaths := false }
/-- an MCMC search switched to likelihood space -/
def mcmcLikelihoodRow : SearchRow :=
  { name := "Emcee", family := .mcmc, owner := "Emcee", fitnessClass := .plain,
    fomIsLL := true, convertChi := false, history := .off,
    resampleBits := 0xfff0000000000000, passesPaths := true }
def lbfgsRow : SearchRow :=
  { name := "LBFGS", family := .mle, owner := "AbstractBFGS", fitnessClass := .plain,
    fomIsLL := false, convertChi := true, history := .dynamic,
    resampleBits := 0x7ff0000000000000, passesPaths := true }
def gLen1 : List Float → Except GateErr (Inst Float) :=
  fun v => if v.length = 1 then .ok (.tup []) else .error .priorLimit

example : rowDesignated floatFom swarmPlusInfRow = false := by decide +kernel
example : rowDesignated floatFom mcmcLikelihoodRow = false := by decide +kernel
/-- a minimiser of `-2 × posterior` with a dynamic history argument that is on: the history keeps the
one successful call of three, the value is `-2 × (2 + 1.5)` -/
example :
    (rowRun floatFom lbfgsRow true gLen1 (fun _ => [1.5]) {}
      [([0.5], .fin 2.0), ([0.5, 0.5], .fin 1.0), ([0.25], .nan)]).2.lls.map Float.toBits = [(2.0 : Float).toBits] := by
  decide +kernel
example :
    (match (rowCall floatFom lbfgsRow true gLen1 (fun _ => [1.5]) {} [0.5] (.fin 2.0)).1 with
      | .value x => x.toBits == (-7.0 : Float).toBits
      | .raises => false) = true := by
  decide +kernel

/-! ## the log-prior terms are computed, not supplied

`logPriorList` (`AFModel/LogPrior.lean`) is what the driver executes for `lp`: parameter order from
the composition tree (`uniqueIds`, the order C01 proves for `model.paths`), one expression per prior
family. The theorems above hold for every `lp`; here `lp` is the model's. -/

/-- one term per parameter (Python's `map` stops at the shorter of priors and vector) -/
theorem logPriorList_length (lo : LpOps V) (tbl : List (Nat × PriorD V)) (t : Node V) (v : List V) :
    (logPriorList lo tbl t v).length = min (count t) v.length := by
  simp [logPriorList, LogPriorLemmas.argsOfVector_length]

/-- **Parameter order.** the k-th term is `log_prior_from_value` of the prior whose id is k-th in
parameter order, applied to the k-th entry of the vector -/
theorem logPriorList_term (lo : LpOps V) (tbl : List (Nat × PriorD V)) (t : Node V) (v : List V) (k : Nat)
    (id : Nat) (x : V) (hid : (uniqueIds t)[k]? = some id) (hx : v[k]? = some x) :
    (logPriorList lo tbl t v)[k]? = some (logPriorOf lo (descOf lo tbl id) x) := by
  simp [logPriorList, LogPriorLemmas.argsOfVector_getElem?, hid, hx]

/-- the families, with the expressions of the code -/
theorem logPrior_families (lo : LpOps V) (mean sigma x : V) :
    logPriorOf lo ⟨.uniform, mean, sigma⟩ x = lo.zero ∧
    logPriorOf lo ⟨.logUniform, mean, sigma⟩ x = lo.div lo.one x ∧
    logPriorOf lo ⟨.gaussian, mean, sigma⟩ x = lo.div (lo.sq (lo.sub x mean)) (lo.mul lo.two (lo.sq sigma)) ∧
    (lo.le0 x = true → logPriorOf lo ⟨.logGaussian, mean, sigma⟩ x = lo.negInf) ∧
    (lo.le0 x = false → logPriorOf lo ⟨.logGaussian, mean, sigma⟩ x =
      lo.sub (lo.div (lo.sq (lo.sub (lo.log x) mean)) (lo.mul lo.two (lo.sq sigma))) (lo.log x)) := by
  refine ⟨rfl, rfl, rfl, ?_, ?_⟩ <;> intro h <;> simp [logPriorOf, normalTerm, h]

/-- **Posterior = likelihood + the model's terms, summed left to right in parameter order**, times −2
in chi-squared mode; nothing is added in likelihood mode. -/
theorem posterior_sum_in_parameter_order (fo : FomOps V) (lo : LpOps V) (cfg : FitCfg V) (g)
    (tbl : List (Nat × PriorD V)) (t : Node V) (st : FitSt V) (v : List V) (i : Inst V) (ll : V) (hg : g v = .ok i) :
    (fitnessCall fo cfg g (logPriorList lo tbl t) st v (.fin ll)).1 =
      .value (let post := fo.add ll (((uniqueIds t).zip v).foldl
                  (fun acc a => fo.add acc (logPriorOf lo (descOf lo tbl a.1) a.2)) fo.zero)
              let fom := if cfg.fomIsLL then ll else post
              if cfg.convertChi then fo.mulNeg2 fom else fom) := by
  rw [fom_on_success fo cfg g _ st v i ll hg]
  simp only [pySum, logPriorList, List.foldl_map, argsOfVector]

/-- with the model's own gate (C03) and the model's own terms: the complete sentence for a vector of
the right length -/
theorem fom_of_model (ops : Ops V) [Inhabited V] (fo : FomOps V) (lo : LpOps V) (cfg : FitCfg V)
    (t : Node V) (lims : List (V × V)) (asserts : List (Asrt V)) (tbl : List (Nat × PriorD V))
    (st : FitSt V) (v : List V) (ll : V) (hl : v.length = count t) :
    (fitnessCall fo cfg (fun v => gate ops t lims asserts v false) (logPriorList lo tbl t) st v (.fin ll)).1 =
      if limitsOk ops lims v = true ∧ (∀ a ∈ asserts, evalA ops (valOf (argsOfVector t v)) a = true) then
        .value (let fom := if cfg.fomIsLL then ll else fo.add ll (logPriorSum fo lo tbl t v)
                if cfg.convertChi then fo.mulNeg2 fom else fom)
      else .value cfg.resample :=
  fom_with_model_gate ops fo cfg t lims asserts (logPriorList lo tbl t) st v ll hl

theorem uniform_terms_zero (lo : LpOps V) (tbl : List (Nat × PriorD V)) (t : Node V) (v : List V)
    (hu : ∀ id ∈ uniqueIds t, (descOf lo tbl id).kind = .uniform) :
    ∀ x ∈ logPriorList lo tbl t v, x = lo.zero := by
  intro x hx
  simp only [logPriorList, List.mem_map] at hx
  obtain ⟨a, ha, rfl⟩ := hx
  have hid : a.1 ∈ uniqueIds t := by
    have := List.of_mem_zip (show (a.1, a.2) ∈ (uniqueIds t).zip v from ha)
    exact this.1
  simp [logPriorOf, hu a.1 hid]

/-- the posterior of an all-uniform model is `ll + 0.0` (whenever `0.0 + 0.0 = 0.0`) -/
theorem uniform_sum_zero (fo : FomOps V) (lo : LpOps V) (tbl : List (Nat × PriorD V)) (t : Node V) (v : List V)
    (hz : fo.add fo.zero lo.zero = fo.zero)
    (hu : ∀ id ∈ uniqueIds t, (descOf lo tbl id).kind = .uniform) :
    logPriorSum fo lo tbl t v = fo.zero := by
  have h := uniform_terms_zero lo tbl t v hu
  unfold logPriorSum pySum
  generalize logPriorList lo tbl t v = l at h
  induction l with
  | nil => rfl
  | cons x xs ih =>
    have hx : x = lo.zero := h x (List.mem_cons_self ..)
    simp only [List.foldl_cons, hx, hz]
    exact ih (fun y hy => h y (List.mem_cons_of_mem _ hy))

/-! ### non-vacuity: exact rationals; two priors whose ids are *not* in the order of the walk -/

def ratLp : LpOps Rat where
  zero := 0
  one := 1
  two := 2
  negInf := -1000000
  nan := -999
  sub := (· - ·)
  mul := (· * ·)
  div := (· / ·)
  sq := fun x => x * x
  log := fun x => x - 1
  le0 := fun x => decide (x ≤ 0)

def ratFom : FomOps Rat := { add := (· + ·), mulNeg2 := (· * -2), zero := 0, isNaN := fun _ => false }

/-- `Model(P2, a = prior 7 (log-uniform), b = prior 3 (gaussian mean 1 sigma 2))`: the walk meets 7 first,
the parameter order is 3, 7 -/
def t₂ : Node Rat := .model "P2" ["a", "b"] [("a", .prior 7), ("b", .prior 3)]
def tbl₂ : List (Nat × PriorD Rat) := [(7, ⟨.logUniform, 0, 1⟩), (3, ⟨.gaussian, 1, 2⟩)]

example : uniqueIds t₂ = [3, 7] := by decide
/-- vector `[5, 1/4]`: the gaussian term belongs to the first entry, `(5-1)²/(2·2²) = 2`, the
log-uniform one to the second, `1/(1/4) = 4` -/
example : logPriorList ratLp tbl₂ t₂ [5, 1/4] = [2, 4] := by decide +kernel
example : (match (fitnessCall ratFom { fomIsLL := false, convertChi := true, storeHistory := false, resample := -1 }
    (fun _ => .ok (.tup [])) (logPriorList ratLp tbl₂ t₂) {} [5, 1/4] (.fin 10)).1 with
    | .value x => x | .raises => 0) = -32 := by decide +kernel
example : logPriorList ratLp tbl₂ t₂ [5] = [2] := by decide +kernel

/-! ## `check_log_likelihood` on resume -/

theorem check_ran_of_not_passes (co : CloseOps V) (testMode cfgOn : Bool) (s : Stored V) (g) (o : Outcome V)
    (h : checkLL co testMode cfgOn s g o ≠ .passes) :
    testMode = false ∧ cfgOn = true ∧ ∃ llOld params, s = .sample llOld params :=
  match testMode, cfgOn, s, h with
  | false, true, .sample llOld params, _ => ⟨rfl, rfl, llOld, params, rfl⟩
  | true, _, _, h | false, false, _, h | false, true, .noSummary, h | false, true, .noSample, h =>
    absurd rfl h

/-- the check is silent when it is switched off or there is nothing to resume from -/
theorem check_passes_when_off (co : CloseOps V) (testMode cfgOn : Bool) (s : Stored V) (g) (o : Outcome V)
    (h : testMode = true ∨ cfgOn = false ∨ s = .noSummary ∨ s = .noSample) :
    checkLL co testMode cfgOn s g o = .passes :=
  Decidable.byContradiction fun hne => by
    obtain ⟨rfl, rfl, _, _, rfl⟩ := check_ran_of_not_passes co testMode cfgOn s g o hne
    simp at h

/-- **The check raises exactly when the stored and the recomputed likelihood are not close**: it is
switched on (no test mode, configuration on), a stored sample exists, the model accepts its
parameters, and the likelihood now returns NaN or a number `np.isclose` rejects. -/
theorem check_raises_iff (co : CloseOps V) (testMode cfgOn : Bool) (s : Stored V) (g) (o : Outcome V) :
    checkLL co testMode cfgOn s g o = .searchException ↔
      testMode = false ∧ cfgOn = true ∧ ∃ llOld params i, s = .sample llOld params ∧ g params = .ok i ∧
        (o = .nan ∨ ∃ llNew, o = .fin llNew ∧ isClose co llOld llNew = false) := by
  constructor
  · intro h
    obtain ⟨rfl, rfl, llOld, params, rfl⟩ :=
      check_ran_of_not_passes co testMode cfgOn s g o (by rw [h]; decide)
    refine ⟨rfl, rfl, llOld, params, ?_⟩
    simp only [checkLL] at h
    cases hg : g params with
    | error e => simp [hg] at h
    | ok i =>
      refine ⟨i, rfl, rfl, ?_⟩
      cases o with
      | fin llNew => exact .inr ⟨llNew, rfl, by simpa [hg] using h⟩
      | nan => exact .inl rfl
      | raisesFit => simp [hg] at h
      | raisesOther => simp [hg] at h
  · rintro ⟨rfl, rfl, llOld, params, i, rfl, hg, rfl | ⟨llNew, rfl, hc⟩⟩
    · simp [checkLL, hg]
    · simp [checkLL, hg, hc]

/-- what else can leave the constructor: the model rejecting the stored vector, the likelihood raising -/
theorem check_escapes_iff (co : CloseOps V) (testMode cfgOn : Bool) (s : Stored V) (g) (o : Outcome V) :
    checkLL co testMode cfgOn s g o = .escapes ↔
      testMode = false ∧ cfgOn = true ∧ ∃ llOld params, s = .sample llOld params ∧
        ((∃ e, g params = .error e) ∨ ((∃ i, g params = .ok i) ∧ (o = .raisesFit ∨ o = .raisesOther))) := by
  constructor
  · intro h
    obtain ⟨rfl, rfl, llOld, params, rfl⟩ :=
      check_ran_of_not_passes co testMode cfgOn s g o (by rw [h]; decide)
    refine ⟨rfl, rfl, llOld, params, rfl, ?_⟩
    simp only [checkLL] at h
    cases hg : g params with
    | error e => exact .inl ⟨e, rfl⟩
    | ok i =>
      refine .inr ⟨⟨i, rfl⟩, ?_⟩
      cases o with
      | fin llNew => cases hc : isClose co llOld llNew <;> simp [hg, hc] at h
      | nan => simp [hg] at h
      | raisesFit => exact .inl rfl
      | raisesOther => exact .inr rfl
  · rintro ⟨rfl, rfl, llOld, params, rfl, ⟨e, hg⟩ | ⟨⟨i, hg⟩, rfl | rfl⟩⟩ <;> simp [checkLL, hg]

/-- **The check never alters a figure of merit** (nor a history): an object built with `paths`
either is not built, or answers every sequence of calls exactly as an object built without. -/
theorem resume_never_alters (fo : FomOps V) (co : CloseOps V) (cfg : FitCfg V) (g) (lp)
    (paths : Option (Bool × Bool × Stored V × Outcome V)) (calls : List (List V × Outcome V)) (r) :
    constructAndRun fo co cfg g lp paths calls = .ok r →
      constructAndRun fo co cfg g lp none calls = .ok r := by
  intro h
  unfold constructAndRun at h ⊢
  cases paths with
  | none => exact h
  | some p =>
    obtain ⟨tm, on, s, o⟩ := p
    simp only at h
    cases hc : checkLL co tm on s g o <;> simp [hc] at h
    simp [h]

theorem resume_built_iff (fo : FomOps V) (co : CloseOps V) (cfg : FitCfg V) (g) (lp)
    (tm on : Bool) (s : Stored V) (o : Outcome V) (calls : List (List V × Outcome V)) :
    (∃ r, constructAndRun fo co cfg g lp (some (tm, on, s, o)) calls = .ok r) ↔ checkLL co tm on s g o = .passes := by
  unfold constructAndRun
  constructor
  · rintro ⟨r, hr⟩
    cases hc : checkLL co tm on s g o <;> simp [hc] at hr
    rfl
  · intro hc
    exact ⟨runCalls fo cfg g lp {} calls, by simp [hc]⟩

/-- `np.isclose` on finite numbers is the stated inequality; equal infinities are close -/
theorem isClose_finite (co : CloseOps V) (a b : V) (ha : co.isFinite a = true) (hb : co.isFinite b = true) :
    isClose co a b = co.le (co.abs (co.sub a b)) (co.add co.atol (co.mul co.rtol (co.abs b))) := by
  simp [isClose, ha, hb]

/-- stored −100.0, recomputed −100.0005: within `1e-8 + 1e-5·100.0005`; recomputed −100.002: not -/
example : isClose floatClose (-100.0) (-100.0005) = true ∧ isClose floatClose (-100.0) (-100.002) = false := by
  decide +kernel
example : checkLL floatClose false true (.sample (-100.0) [0.5]) gLen1 (.fin (-100.002)) = .searchException := by
  decide +kernel
example : checkLL floatClose false true (.sample (-100.0) [0.5]) gLen1 (.fin (-100.0005)) = .passes := by
  decide +kernel
example : checkLL floatClose false true (.sample (-100.0) [0.5, 0.5]) gLen1 (.fin (-100.0)) = .escapes := by
  decide +kernel
example : checkLL floatClose true true (.sample (-100.0) [0.5]) gLen1 (.fin 3.0) = .passes := by
  decide +kernel

end AF.C04
