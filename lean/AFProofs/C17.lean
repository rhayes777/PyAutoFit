import AFProofs.Lemmas.Msg
import AFProofs.Lemmas.MsgReal
import AFProofs.Lemmas.MsgGB
import AFProofs.Lemmas.MsgGBReal

/-!
# C17 — messages form a consistent exponential-family algebra

About the `Msg` model (`AFModel/Msg.lean`), for every ordered field `K`, every `sqrt` obeying `SqrtLaw`
(`Real.sqrt` does: `realFn_sqrtLaw`) and otherwise arbitrary special functions. The model is tied to /repo by
`harness/c17.py`.
-/

set_option linter.unusedSectionVars false

namespace AF.C17
open AF.Msg

section field
variable {K : Type} [Field K] [LinearOrder K] [IsStrictOrderedRing K]

/-! ## multiplying, dividing, raising to a power: additive / linear on natural parameters -/

/-- `a * b`: natural parameters add (plain or transformed operands), provided the sum lies in the
natural-parameter domain of the left operand's class (`η₂ < 0` for `NormalMessage`; no condition for
NaturalNormal, Gamma, Beta). -/
theorem mul_natural {fn : Fn K} (hs : SqrtLaw fn) (a b : M K) (hf : a.base.fam ≠ .fixed)
    (hd : InDomain a.base.fam (a.natural.1 + b.natural.1, a.natural.2 + b.natural.2)) :
    (M.mul fn a b).natural = (a.natural.1 + b.natural.1, a.natural.2 + b.natural.2) := by
  rw [M.natural, M.mul_base fn a b hf]
  exact calc_invert hs a.base.fam _ hd

theorem div_natural {fn : Fn K} (hs : SqrtLaw fn) (a b : M K) (hf : a.base.fam ≠ .fixed)
    (hd : InDomain a.base.fam (a.natural.1 - b.natural.1, a.natural.2 - b.natural.2)) :
    (M.div fn a b).natural = (a.natural.1 - b.natural.1, a.natural.2 - b.natural.2) := by
  rw [M.natural, M.div_base fn a b hf]
  exact calc_invert hs a.base.fam _ hd

theorem pow_natural {fn : Fn K} (hs : SqrtLaw fn) (a : M K) (k : K) (hf : a.base.fam ≠ .fixed)
    (hd : InDomain a.base.fam (k * a.natural.1, k * a.natural.2)) :
    (M.pow fn a k).natural = (k * a.natural.1, k * a.natural.2) := by
  rw [M.natural, M.pow_base fn a k hf]
  exact calc_invert hs a.base.fam _ hd

/-- a valid `NormalMessage` raised to a positive power stays in the domain: no guard needed -/
theorem pow_natural_normal_pos {fn : Fn K} (hs : SqrtLaw fn) (a : M K) (k : K) (hn : a.base.fam = .normal)
    (hσ : 0 < a.base.p2) (hk : 0 < k) :
    (M.pow fn a k).natural = (k * a.natural.1, k * a.natural.2) :=
  pow_natural hs a k (by rw [hn]; decide) fun h =>
    mul_neg_of_pos_of_neg hk (inDomain_natural a.base (fun _ => hσ) h)

/-- class, id and limits of the left operand, and the transform stack, id and limits of a
transformed left operand, survive every operation (no guard) -/
theorem arith_keeps_identity (fn : Fn K) (a b : M K) (k c : K) :
    ((M.mul fn a b).base.ident = a.base.ident ∧ (M.mul fn a b).shell = a.shell) ∧
    ((M.div fn a b).base.ident = a.base.ident ∧ (M.div fn a b).shell = a.shell) ∧
    ((M.pow fn a k).base.ident = a.base.ident ∧ (M.pow fn a k).shell = a.shell) ∧
    ((M.smul fn a c).base.ident = a.base.ident ∧ (M.smul fn a c).shell = a.shell) ∧
    ((M.sdiv fn a c).base.ident = a.base.ident ∧ (M.sdiv fn a c).shell = a.shell) := by
  simp [M.mul, M.div, M.pow, M.smul, M.sdiv, Base.mul_ident, Base.div_ident, Base.pow_ident,
    Base.smul_ident, Base.sdiv_ident]

/-- what the operations do to `log_norm` (as the code behaves: the product is "unnormalised") -/
theorem log_norm_rules (fn : Fn K) (a b : M K) (k c : K) (hf : a.base.fam ≠ .fixed) :
    (M.mul fn a b).base.logNorm = 0 ∧
    (M.div fn a b).base.logNorm = a.base.logNorm - b.base.logNorm ∧
    (M.pow fn a k).base.logNorm = k * a.base.logNorm ∧
    (M.smul fn a c).base.logNorm = a.base.logNorm + fn.log c ∧
    (M.sdiv fn a c).base.logNorm = a.base.logNorm - fn.log c := by
  rw [M.mul_base fn a b hf, M.div_base fn a b hf, M.pow_base fn a k hf, M.smul, M.sdiv, M.lift_base, M.lift_base,
    Base.smul_eq fn _ c hf]
  exact ⟨rfl, rfl, rfl, rfl, rfl⟩

/-- scaling by a number leaves the distribution alone -/
theorem scalar_keeps_natural (fn : Fn K) (a : M K) (c : K) :
    (M.smul fn a c).natural = a.natural ∧ (M.sdiv fn a c).natural = a.natural := by
  constructor
  · simp only [M.smul, M.natural, M.lift_base]; unfold Base.smul; split <;> rfl
  · simp [M.sdiv, M.natural, Base.sdiv, Base.natural]

/-! ## self-consistency -/

theorem mul_div_base {fn : Fn K} (hs : SqrtLaw fn) (a b : M K) (hf : a.base.fam ≠ .fixed)
    (hab : InDomain a.base.fam (a.natural.1 + b.natural.1, a.natural.2 + b.natural.2)) :
    (M.div fn (M.mul fn a b) b).base =
      fromNatural fn a.base.fam a.natural (0 - b.base.logNorm) a.base.id a.base.lower a.base.upper := by
  have hf' : (M.mul fn a b).base.fam ≠ .fixed := by rw [M.mul_fam]; exact hf
  have e : ((M.mul fn a b).natural.1 - b.natural.1, (M.mul fn a b).natural.2 - b.natural.2) = a.natural := by
    rw [mul_natural hs a b hf hab]; exact Prod.ext (add_sub_cancel_right _ _) (add_sub_cancel_right _ _)
  rw [M.div_base fn _ b hf', e, M.mul_base fn a b hf]
  rfl

/-- `(a * b) / b` is `a` in everything but `log_norm`, which is `-b.log_norm` (the code's product is unnormalised) -/
theorem mul_div_cancel {fn : Fn K} (hs : SqrtLaw fn) (a b : M K) (hf : a.base.fam ≠ .fixed)
    (hab : InDomain a.base.fam (a.natural.1 + b.natural.1, a.natural.2 + b.natural.2))
    (ha : InDomain a.base.fam a.natural) :
    (M.div fn (M.mul fn a b) b).natural = a.natural ∧
    (M.div fn (M.mul fn a b) b).base.ident = a.base.ident ∧
    (M.div fn (M.mul fn a b) b).shell = a.shell ∧
    (M.div fn (M.mul fn a b) b).base.logNorm = 0 - b.base.logNorm := by
  have hbase := mul_div_base hs a b hf hab
  refine ⟨?_, ?_, ?_, ?_⟩
  · rw [M.natural, hbase]; exact calc_invert hs a.base.fam _ ha
  · rw [hbase]; rfl
  · rw [M.div, M.mul, M.lift_shell, M.lift_shell]
  · rw [hbase]; rfl

/-- … also in the ordinary parameters (for a `NormalMessage` with `sigma > 0`; the other classes need no condition) -/
theorem mul_div_cancel_parameters {fn : Fn K} (hs : SqrtLaw fn) (a b : M K) (hf : a.base.fam ≠ .fixed)
    (hab : InDomain a.base.fam (a.natural.1 + b.natural.1, a.natural.2 + b.natural.2))
    (hσ : a.base.fam = .normal → 0 < a.base.p2) :
    (M.div fn (M.mul fn a b) b).base = { a.base with logNorm := 0 - b.base.logNorm } := by
  rw [mul_div_base hs a b hf hab, fromNatural, M.natural, Base.natural, invert_calc hs _ _ _ hσ]

/-! ## powers: repeated powers are products -/

theorem pow_add {fn : Fn K} (hs : SqrtLaw fn) (a : M K) (j k : K) (hf : a.base.fam ≠ .fixed)
    (hj : InDomain a.base.fam (j * a.natural.1, j * a.natural.2))
    (hk : InDomain a.base.fam (k * a.natural.1, k * a.natural.2))
    (hjk : InDomain a.base.fam ((j + k) * a.natural.1, (j + k) * a.natural.2)) :
    (M.mul fn (M.pow fn a j) (M.pow fn a k)).natural = (M.pow fn a (j + k)).natural := by
  have hf' : (M.pow fn a j).base.fam ≠ .fixed := by rw [M.pow_fam]; exact hf
  have e : ((M.pow fn a j).natural.1 + (M.pow fn a k).natural.1, (M.pow fn a j).natural.2 + (M.pow fn a k).natural.2) =
      ((j + k) * a.natural.1, (j + k) * a.natural.2) := by
    rw [pow_natural hs a j hf hj, pow_natural hs a k hf hk, add_mul, add_mul]
  rw [pow_natural hs a (j + k) hf hjk, ← e]
  exact mul_natural hs _ _ hf' (by rw [M.pow_fam, e]; exact hjk)

theorem pow_mul {fn : Fn K} (hs : SqrtLaw fn) (a : M K) (j k : K) (hf : a.base.fam ≠ .fixed)
    (hk : InDomain a.base.fam (k * a.natural.1, k * a.natural.2))
    (hjk : InDomain a.base.fam ((j * k) * a.natural.1, (j * k) * a.natural.2)) :
    (M.pow fn (M.pow fn a k) j).natural = (M.pow fn a (j * k)).natural := by
  have hf' : (M.pow fn a k).base.fam ≠ .fixed := by rw [M.pow_fam]; exact hf
  have e : (j * (M.pow fn a k).natural.1, j * (M.pow fn a k).natural.2) =
      (j * k * a.natural.1, j * k * a.natural.2) := by
    rw [pow_natural hs a k hf hk, mul_assoc, mul_assoc]
  rw [pow_natural hs a (j * k) hf hjk, ← e]
  exact pow_natural hs _ j hf' (by rw [M.pow_fam, e]; exact hjk)

/-- "a**k repeated equals products": the `(n+1)`-fold product of `a` and `a ** (n+1)` both have natural
parameters `(n+1)·η` -/
theorem pow_nat_eq_prod {fn : Fn K} (hs : SqrtLaw fn) (a : M K) (hf : a.base.fam ≠ .fixed)
    (ha : InDomain a.base.fam a.natural) (n : Nat) :
    (prodN fn a n).natural = (((n : K) + 1) * a.natural.1, ((n : K) + 1) * a.natural.2) ∧
    (prodN fn a n).natural = (M.pow fn a ((n : K) + 1)).natural ∧
    (prodN fn a n).base.fam = a.base.fam := by
  have hdom : ∀ m : Nat, InDomain a.base.fam (((m : K) + 1) * a.natural.1, ((m : K) + 1) * a.natural.2) :=
    fun m hn => mul_neg_of_pos_of_neg (Nat.cast_add_one_pos m) (ha hn)
  suffices h : (prodN fn a n).natural = (((n : K) + 1) * a.natural.1, ((n : K) + 1) * a.natural.2) ∧
      (prodN fn a n).base.fam = a.base.fam from
    ⟨h.1, h.1.trans (pow_natural hs a _ hf (hdom n)).symm, h.2⟩
  induction n with
  | zero => exact ⟨by rw [Nat.cast_zero, zero_add, one_mul, one_mul]; rfl, rfl⟩
  | succ n ih =>
    obtain ⟨ih1, ih3⟩ := ih
    have e : ((prodN fn a n).natural.1 + a.natural.1, (prodN fn a n).natural.2 + a.natural.2) =
        ((((n + 1 : Nat) : K) + 1) * a.natural.1, (((n + 1 : Nat) : K) + 1) * a.natural.2) := by
      rw [ih1, Nat.cast_succ, add_one_mul ((n : K) + 1), add_one_mul ((n : K) + 1)]
    refine ⟨?_, (M.mul_fam fn _ a).trans ih3⟩
    rw [← e]
    exact mul_natural hs _ a (by rw [ih3]; exact hf) (by rw [ih3, e]; exact hdom (n + 1))

/-- a `FixedMessage` is absorbing: product, quotient and power return it unchanged -/
theorem fixed_absorbs (fn : Fn K) (a b : M K) (k : K) (hf : a.base.fam = .fixed) :
    (M.mul fn a b).base = a.base ∧ (M.div fn a b).base = a.base ∧ (M.pow fn a k).base = a.base := by
  refine ⟨?_, ?_, ?_⟩
  · simp only [M.mul, M.lift_base]; unfold Base.mul; rw [hf]
  · simp only [M.div, M.lift_base]; unfold Base.div; rw [hf]
  · simp only [M.pow, M.lift_base]; unfold Base.pow; rw [hf]

/-! ## conversions round-trip -/

/-- natural → ordinary → natural (`from_natural_parameters(η).natural_parameters = η`) on the domain -/
theorem natural_roundtrip {fn : Fn K} (hs : SqrtLaw fn) (fam : Family) (eta : K × K) (ln : K) (id : Nat)
    (lo hi : K) (hd : InDomain fam eta) : (fromNatural fn fam eta ln id lo hi).natural = eta :=
  calc_invert hs fam eta hd

/-- ordinary → natural → ordinary: `from_natural_parameters(m.natural_parameters)` has `m`'s parameters
(`sigma > 0` for a `NormalMessage`) -/
theorem ordinary_roundtrip {fn : Fn K} (hs : SqrtLaw fn) (a : Base K) (hσ : a.fam = .normal → 0 < a.p2) :
    fromNatural fn a.fam a.natural a.logNorm a.id a.lower a.upper = a := by
  have h := invert_calc hs a.fam a.p1 a.p2 hσ
  simp only [fromNatural, Base.natural, h]

/-- `NormalMessage.natural` is the same distribution in natural form, with the same log_norm, id and limits -/
theorem toNatural_same (a : Base K) (hn : a.fam = .normal) :
    a.toNatural.natural = a.natural ∧ a.toNatural.fam = .naturalNormal ∧ a.toNatural.logNorm = a.logNorm ∧
    a.toNatural.id = a.id ∧ a.toNatural.lower = a.lower ∧ a.toNatural.upper = a.upper := by
  have e : a.toNatural = { a with fam := .naturalNormal, p1 := a.natural.1, p2 := a.natural.2 } := by
    simp only [Base.toNatural, hn]
  rw [e]
  exact ⟨rfl, rfl, rfl, rfl, rfl, rfl⟩

/-- sufficient statistics → message: for moments `m₂ > m₁²` the member returned by
`from_sufficient_statistics` (Normal or NaturalNormal) has exactly those moments:
`E[x] = m₁`, `E[x²] = mean² + variance = m₂`. -/
theorem fromSuff_moments {fn : Fn K} (hs : SqrtLaw fn) (fam : Family)
    (hfam : fam = .normal ∨ fam = .naturalNormal) (m1 m2 ln : K) (id : Nat) (hv : 0 < m2 - m1 * m1) :
    (fromSuff fn fam m1 m2 ln id).mean = m1 ∧
    (fromSuff fn fam m1 m2 ln id).mean * (fromSuff fn fam m1 m2 ln id).mean +
      (fromSuff fn fam m1 m2 ln id).variance fn = m2 := by
  have hsq := hs.sq _ hv.le
  have hpos := hs.sqrt_pos hv
  have hN := fromSuff_normal hs m1 m2 ln id hpos rfl
  have key : m1 * m1 + fn.sqrt (m2 - m1 * m1) * fn.sqrt (m2 - m1 * m1) = m2 := by
    rw [hsq]; exact add_sub_cancel _ _
  rcases hfam with rfl | rfl
  · rw [hN]; exact ⟨rfl, key⟩
  · -- the NaturalNormal with these statistics is the natural form of the NormalMessage with them
    have hNN : fromSuff fn .naturalNormal m1 m2 ln id = (fromSuff fn .normal m1 m2 ln id).toNatural := by
      rw [hN]
      simp only [fromSuff, fromNatural, invertSuff, invertNatural, Base.toNatural, Base.natural, calcNatural, hsq]
    obtain ⟨hm, hvar⟩ := toNatural_moments hs (fromSuff fn .normal m1 m2 ln id) (by rw [hN]) (by rw [hN]; exact hpos)
    rw [hNN, hm, hvar, hN]; exact ⟨rfl, key⟩

/-- the sufficient statistics of `NormalMessage(μ, σ)` give back `NormalMessage(μ, σ)` -/
theorem suffstat_roundtrip {fn : Fn K} (hs : SqrtLaw fn) (mu sigma ln : K) (id : Nat) (hσ : 0 < sigma) :
    (fromSuff fn .normal mu (mu * mu + sigma * sigma) ln id).p1 = mu ∧
    (fromSuff fn .normal mu (mu * mu + sigma * sigma) ln id).p2 = sigma := by
  have hroot : fn.sqrt (mu * mu + sigma * sigma - mu * mu) = sigma := by
    rw [add_sub_cancel_left]; exact hs.sqrt_mul_self hσ.le
  rw [fromSuff_normal hs mu _ ln id hσ hroot]
  exact ⟨rfl, rfl⟩

/-! ## projection of weighted samples -/

/-- the statistics `project` hands on are the weighted sample moments `Σwx/Σw`, `Σwx²/Σw`
(any number of samples, any weights with non-zero sum) -/
theorem weightedStats_eq (xs ws : List K) (hlen : xs.length = ws.length) (hn : xs ≠ [])
    (hw : sumL ws ≠ 0) :
    weightedStats xs ws =
      (sumL (List.zipWith (fun x w => x * w) xs ws) / sumL ws,
       sumL (List.zipWith (fun x w => x * x * w) xs ws) / sumL ws) :=
  Prod.ext (meanL_zipWith_normalised (fun x => x) xs ws hlen hn)
    (meanL_zipWith_normalised (fun x => x * x) xs ws hlen hn)

/-- moment matching: the `NormalMessage` returned by `project` has mean `Σwx/Σw` and variance
`Σwx²/Σw − mean²` (when that is positive) -/
theorem project_matches_weighted_moments {fn : Fn K} (hs : SqrtLaw fn) (fam : Family)
    (hfam : fam = .normal ∨ fam = .naturalNormal) (xs ws : List K) (ln : K) (id : Nat)
    (hlen : xs.length = ws.length) (hn : xs ≠ []) (hw : sumL ws ≠ 0)
    (hv : 0 < sumL (List.zipWith (fun x w => x * x * w) xs ws) / sumL ws -
      (sumL (List.zipWith (fun x w => x * w) xs ws) / sumL ws) *
      (sumL (List.zipWith (fun x w => x * w) xs ws) / sumL ws)) :
    (projectW fn fam xs ws ln id).mean = sumL (List.zipWith (fun x w => x * w) xs ws) / sumL ws ∧
    (projectW fn fam xs ws ln id).mean * (projectW fn fam xs ws ln id).mean +
      (projectW fn fam xs ws ln id).variance fn = sumL (List.zipWith (fun x w => x * x * w) xs ws) / sumL ws := by
  simp only [projectW, weightedStats_eq xs ws hlen hn hw]
  exact fromSuff_moments hs fam hfam _ _ ln id hv

/-! ## first-order variance of a transformed message -/

/-- the point at which each Jacobian of `TransformedMessage.variance` is taken is the running mean:
after the whole stack it is the mean the message reports -/
theorem varianceChain_mean (fn : Fn K) : ∀ (trs : List (Tr K)) (m v : K),
    (varianceChain fn trs (m, v)).1 = inverseChain fn trs m
  | [], m, v => rfl
  | t :: rest, m, v => by
      simp only [varianceChain, inverseChain, List.foldl_cons]
      exact varianceChain_mean fn rest _ _

theorem variance_plain (fn : Fn K) (b : Base K) : (M.plain b).variance fn = b.variance fn := rfl

theorem varianceChain_append_stack (fn : Fn K) (trs ts : List (Tr K)) (mv : K × K) :
    varianceChain fn (trs ++ ts) mv = varianceChain fn ts (varianceChain fn trs mv) := by
  induction trs generalizing mv with
  | nil => rfl
  | cons t rest ih =>
    obtain ⟨m, v⟩ := mv
    simp only [List.cons_append, varianceChain]
    exact ih _

/-- one more transform at the end of the stack rescales the variance by the squared inverse Jacobian of that
transform at the new mean -/
theorem varianceChain_append (fn : Fn K) (trs : List (Tr K)) (t : Tr K) (m v : K) :
    varianceChain fn (trs ++ [t]) (m, v) =
      (t.inv fn (varianceChain fn trs (m, v)).1,
       (varianceChain fn trs (m, v)).2 * (1 / t.grad fn (t.inv fn (varianceChain fn trs (m, v)).1)) *
         (1 / t.grad fn (t.inv fn (varianceChain fn trs (m, v)).1))) :=
  varianceChain_append_stack fn trs [t] (m, v)

/-- a stack of `LinearShiftTransform`s (the affine part of every prior's message) multiplies the variance by the
product of the squared scales, wherever the mean is -/
theorem variance_affine (fn : Fn K) : ∀ (ss : List (K × K)) (m v : K), (∀ sc ∈ ss, sc.2 ≠ 0) →
    (varianceChain fn (ss.map fun sc => Tr.shift sc.1 sc.2) (m, v)).2 =
      v * (ss.map fun sc => sc.2 * sc.2).prod
  | [], m, v, _ => (mul_one v).symm
  | sc :: rest, m, v, h => by
      have ih := variance_affine fn rest ((Tr.shift sc.1 sc.2).inv fn m) (v * sc.2 * sc.2)
        fun x hx => h x (List.mem_cons_of_mem _ hx)
      rw [List.map_cons, List.map_cons, List.prod_cons, ← mul_assoc, ← mul_assoc, ← ih]
      show (varianceChain fn _ (_, v * (1 / (1 / sc.2)) * (1 / (1 / sc.2)))).2 = _
      rw [one_div_one_div]

/-- a stand-in for the special functions over `ℚ` (only `exp`, `log` are used below: x², x) -/
def fnQ : Fn ℚ :=
  { sqrt := id, log := id, exp := fun x => x * x, log10 := id, exp10 := id, ndtr := id, ndtri := id,
    erfinv := id, normPdf := id, negInf := -1, posInf := 1, halfLog2Pi := 1, isFinite := fun _ => true,
    le := fun a b => decide (a ≤ b), max := fun a b => if a ≤ b then b else a }

/-- the order of the stack matters: with a non-linear transform and a scaling, reversing the stack
changes the result (non-vacuity of "in the order of the stack"; `ℚ` with the stand-ins above) -/
example : (varianceChain fnQ [Tr.exp, Tr.shift 0 3] (2, 1)).2 ≠
    (varianceChain fnQ [Tr.shift 0 3, Tr.exp] (2, 1)).2 := by
  decide +kernel

/-! ## Gamma and Beta: arithmetic on the ordinary parameters, with the exact validity guards -/

/-- `GammaMessage`: product, quotient and power on the ordinary parameters (no domain condition: the maps between
ordinary and natural parameters are affine) -/
theorem gamma_arith_parameters (fn : Fn K) (a b : M K) (k : K) (ha : a.base.fam = .gamma) (hb : b.base.fam = .gamma) :
    ((M.mul fn a b).base.p1 = a.base.p1 + b.base.p1 - 1 ∧ (M.mul fn a b).base.p2 = a.base.p2 + b.base.p2) ∧
    ((M.div fn a b).base.p1 = a.base.p1 - b.base.p1 + 1 ∧ (M.div fn a b).base.p2 = a.base.p2 - b.base.p2) ∧
    ((M.pow fn a k).base.p1 = k * (a.base.p1 - 1) + 1 ∧ (M.pow fn a k).base.p2 = k * a.base.p2) := by
  have hf : a.base.fam ≠ .fixed := by rw [ha]; decide
  rw [M.mul_base fn a b hf, M.div_base fn a b hf, M.pow_base fn a k hf, M.natural, M.natural, natural_gamma _ ha,
    natural_gamma _ hb, ha]
  refine ⟨⟨shape_mul _ _, ?_⟩, ⟨shape_div _ _, ?_⟩, ⟨rfl, ?_⟩⟩
  · show -(-a.base.p2 + -b.base.p2) = _
    rw [← neg_add, neg_neg]
  · show -(-a.base.p2 - -b.base.p2) = _
    rw [← neg_sub', neg_neg]
  · show -(k * -a.base.p2) = _
    rw [mul_neg, neg_neg]

/-- `BetaMessage`: the same for both shape parameters -/
theorem beta_arith_parameters (fn : Fn K) (a b : M K) (k : K) (ha : a.base.fam = .beta) (hb : b.base.fam = .beta) :
    ((M.mul fn a b).base.p1 = a.base.p1 + b.base.p1 - 1 ∧ (M.mul fn a b).base.p2 = a.base.p2 + b.base.p2 - 1) ∧
    ((M.div fn a b).base.p1 = a.base.p1 - b.base.p1 + 1 ∧ (M.div fn a b).base.p2 = a.base.p2 - b.base.p2 + 1) ∧
    ((M.pow fn a k).base.p1 = k * (a.base.p1 - 1) + 1 ∧ (M.pow fn a k).base.p2 = k * (a.base.p2 - 1) + 1) := by
  have hf : a.base.fam ≠ .fixed := by rw [ha]; decide
  rw [M.mul_base fn a b hf, M.div_base fn a b hf, M.pow_base fn a k hf, M.natural, M.natural, natural_beta _ ha,
    natural_beta _ hb, ha]
  exact ⟨⟨shape_mul _ _, shape_mul _ _⟩, ⟨shape_div _ _, shape_div _ _⟩, ⟨rfl, rfl⟩⟩

/-- when the result of an operation on Gamma messages is again a valid Gamma message (`shape > 0`, `rate > 0`) -/
theorem gamma_validity_guards (fn : Fn K) (a b : M K) (k : K) (ha : a.base.fam = .gamma) (hb : b.base.fam = .gamma) :
    (0 < (M.mul fn a b).base.p1 ↔ 1 < a.base.p1 + b.base.p1) ∧
    (0 < (M.mul fn a b).base.p2 ↔ 0 < a.base.p2 + b.base.p2) ∧
    (0 < (M.div fn a b).base.p1 ↔ b.base.p1 < a.base.p1 + 1) ∧
    (0 < (M.div fn a b).base.p2 ↔ b.base.p2 < a.base.p2) ∧
    (0 < (M.pow fn a k).base.p1 ↔ k * (1 - a.base.p1) < 1) ∧
    (0 < (M.pow fn a k).base.p2 ↔ 0 < k * a.base.p2) := by
  obtain ⟨⟨h1, h2⟩, ⟨h3, h4⟩, ⟨h5, h6⟩⟩ := gamma_arith_parameters fn a b k ha hb
  rw [h1, h2, h3, h4, h5, h6]
  exact ⟨sub_pos, Iff.rfl, shape_div_pos _ _, sub_pos, shape_pow_pos _ _, Iff.rfl⟩

/-- … and on Beta messages -/
theorem beta_validity_guards (fn : Fn K) (a b : M K) (k : K) (ha : a.base.fam = .beta) (hb : b.base.fam = .beta) :
    (0 < (M.mul fn a b).base.p1 ↔ 1 < a.base.p1 + b.base.p1) ∧
    (0 < (M.mul fn a b).base.p2 ↔ 1 < a.base.p2 + b.base.p2) ∧
    (0 < (M.div fn a b).base.p1 ↔ b.base.p1 < a.base.p1 + 1) ∧
    (0 < (M.div fn a b).base.p2 ↔ b.base.p2 < a.base.p2 + 1) ∧
    (0 < (M.pow fn a k).base.p1 ↔ k * (1 - a.base.p1) < 1) ∧
    (0 < (M.pow fn a k).base.p2 ↔ k * (1 - a.base.p2) < 1) := by
  obtain ⟨⟨h1, h2⟩, ⟨h3, h4⟩, ⟨h5, h6⟩⟩ := beta_arith_parameters fn a b k ha hb
  rw [h1, h2, h3, h4, h5, h6]
  exact ⟨sub_pos, sub_pos, shape_div_pos _ _, shape_div_pos _ _, shape_pow_pos _ _, shape_pow_pos _ _⟩

/-! ## the algebra acts on densities: products of messages are products of densities -/

/-- the density of `a * b` is the product of the densities up to a constant factor (every family; `t(x)` of the two
operands must agree: same class, or NormalMessage with NaturalNormal) -/
theorem density_mul_proportional {fn : Fn K} (hs : SqrtLaw fn) (sp : Sp K) (a b : M K) (hf : a.base.fam ≠ .fixed)
    (hfam : ∀ x, toCanonical fn sp b.base.fam x = toCanonical fn sp a.base.fam x)
    (hd : InDomain a.base.fam (a.natural.1 + b.natural.1, a.natural.2 + b.natural.2)) :
    ∃ c : K, ∀ x : K,
      (M.mul fn a b).base.logpdfRaw fn sp x = a.base.logpdfRaw fn sp x + b.base.logpdfRaw fn sp x + c := by
  have hnat : (M.mul fn a b).base.natural = _ := mul_natural hs a b hf hd
  refine ⟨logPartitionGB fn sp a.base.fam a.natural + logPartitionGB fn sp b.base.fam b.natural
      - logPartitionGB fn sp a.base.fam (a.natural.1 + b.natural.1, a.natural.2 + b.natural.2) - logBase fn b.base.fam, ?_⟩
  intro x
  rw [logpdfRaw_eq, logpdfRaw_eq, logpdfRaw_eq, M.mul_fam, hnat, hfam x]
  simp only [M.natural]
  ring

/-- … of `a / b` the quotient -/
theorem density_div_proportional {fn : Fn K} (hs : SqrtLaw fn) (sp : Sp K) (a b : M K) (hf : a.base.fam ≠ .fixed)
    (hfam : ∀ x, toCanonical fn sp b.base.fam x = toCanonical fn sp a.base.fam x)
    (hd : InDomain a.base.fam (a.natural.1 - b.natural.1, a.natural.2 - b.natural.2)) :
    ∃ c : K, ∀ x : K,
      (M.div fn a b).base.logpdfRaw fn sp x = a.base.logpdfRaw fn sp x - b.base.logpdfRaw fn sp x + c := by
  have hnat : (M.div fn a b).base.natural = _ := div_natural hs a b hf hd
  refine ⟨logPartitionGB fn sp a.base.fam a.natural - logPartitionGB fn sp b.base.fam b.natural
      - logPartitionGB fn sp a.base.fam (a.natural.1 - b.natural.1, a.natural.2 - b.natural.2) + logBase fn b.base.fam, ?_⟩
  intro x
  rw [logpdfRaw_eq, logpdfRaw_eq, logpdfRaw_eq, M.div_fam, hnat, hfam x]
  simp only [M.natural]
  ring

/-- … of `a ** k` the `k`-th power -/
theorem density_pow_proportional {fn : Fn K} (hs : SqrtLaw fn) (sp : Sp K) (a : M K) (k : K) (hf : a.base.fam ≠ .fixed)
    (hd : InDomain a.base.fam (k * a.natural.1, k * a.natural.2)) :
    ∃ c : K, ∀ x : K, (M.pow fn a k).base.logpdfRaw fn sp x = k * a.base.logpdfRaw fn sp x + c := by
  have hnat : (M.pow fn a k).base.natural = _ := pow_natural hs a k hf hd
  refine ⟨k * logPartitionGB fn sp a.base.fam a.natural
      - logPartitionGB fn sp a.base.fam (k * a.natural.1, k * a.natural.2) + (1 - k) * logBase fn a.base.fam, ?_⟩
  intro x
  rw [logpdfRaw_eq, logpdfRaw_eq, M.pow_fam, hnat]
  simp only [M.natural]
  ring

/-- the every-family density is the one of the normal theorems on the normal family -/
theorem logpdfX_normal (fn : Fn K) (sp : Sp K) (a : Base K) (h : a.fam = .normal ∨ a.fam = .naturalNormal) (x : K)
    (hnn : sp.nanToNum (a.logpdf fn x) = a.logpdf fn x) : a.logpdfX fn sp x = a.logpdf fn x := by
  simp only [Base.logpdfX, logpdfRaw_normal fn sp a h x, hnn]

/-- `mean` with `NaturalNormal`'s `np.nan_to_num` is the mean of the theorems wherever `nan_to_num` is the identity
(every finite value), for plain and transformed messages -/
theorem meanX_eq_mean (fn : Fn K) (sp : Sp K) (m : M K) (h : sp.nanToNum0 m.base.mean = m.base.mean) :
    m.meanX fn sp = m.mean fn := by
  simp only [M.meanX, M.mean, Base.meanX]
  split <;> simp [h]

/-! ## the numerical inversions: what they solve -/

/-- `invpsilog`: a Newton step leaves `x` where it is exactly when `x` solves `ψ(x) − log x = c`; a solution is kept by
any number of further steps -/
theorem invpsilog_fixed_point (fn : Fn K) (sp : Sp K) (c x : K) (hg : gradPsilog sp x ≠ 0) :
    (psilogStep fn sp c x = x ↔ psilog fn sp x = c) ∧
    (psilog fn sp x = c → ∀ n, newtonPsilog fn sp c n x = x) :=
  ⟨psilogStep_eq_self_iff fn sp c x hg, fun h n => newtonPsilog_of_solution fn sp c x h n⟩

/-- `inv_beta_suffstats`: a Newton step leaves `(a, b)` where it is exactly when both moment equations hold
(non-singular Jacobian); a solution is kept by any number of further steps -/
theorem inv_beta_fixed_point (sp : Sp K) (l1 l2 : K) (ab : K × K) (hd : betaDet sp ab ≠ 0) :
    (betaStep sp l1 l2 ab = ab ↔ betaResidual sp l1 l2 ab = (0, 0)) ∧
    (betaResidual sp l1 l2 ab = (0, 0) → ∀ n, betaNewton sp l1 l2 n ab = ab) :=
  ⟨betaStep_eq_self_iff sp l1 l2 ab hd, fun h n => betaNewton_of_solution sp l1 l2 ab h n⟩

/-- moment matching for every family: when the inversion has converged, the member returned by
`from_sufficient_statistics(m1, m2)` has expected sufficient statistics `E[t(x)] = (m1, m2)` -/
theorem fromSuffX_moment_matching {fn : Fn K} (hs : SqrtLaw fn) (sp : Sp K) (fam : Family) (m1 m2 ln : K) (id : Nat)
    (hc : Converged fn sp fam m1 m2) :
    (fromSuffX fn sp fam m1 m2 ln id).expectedStats fn sp = (m1, m2) := by
  -- Gamma and Beta: the member built from the ordinary parameters `p` the inversion returns has parameters `p`
  cases fam with
  | normal =>
    have h := fromSuff_moments hs .normal (Or.inl rfl) m1 m2 ln id hc
    exact Prod.ext h.1 h.2
  | naturalNormal =>
    have h := fromSuff_moments hs .naturalNormal (Or.inr rfl) m1 m2 ln id hc
    exact Prod.ext h.1 h.2
  | gamma =>
    obtain ⟨h1, h2, -, h4⟩ := hc
    rw [show fromSuffX fn sp .gamma m1 m2 ln id = _ from ordinary_roundtrip hs
      ⟨.gamma, invpsilog fn sp (m1 - fn.log m2), invpsilog fn sp (m1 - fn.log m2) / m2, ln, id, _, _⟩ nofun]
    generalize invpsilog fn sp (m1 - fn.log m2) = α at h1 h2 h4 ⊢
    refine Prod.ext ?_ (div_div_cancel₀ h2)
    show sp.digamma α - fn.log (α / m2) = m1
    rw [h4, ← sub_add]
    exact (congrArg (· + fn.log m2) h1).trans (sub_add_cancel _ _)
  | beta =>
    have hc : betaResidual sp m1 m2 (invBetaSuffstats fn sp m1 m2) = (0, 0) := hc
    rw [show fromSuffX fn sp .beta m1 m2 ln id = _ from ordinary_roundtrip hs
      ⟨.beta, (invBetaSuffstats fn sp m1 m2).1, (invBetaSuffstats fn sp m1 m2).2, ln, id, _, _⟩ nofun]
    generalize invBetaSuffstats fn sp m1 m2 = ab at hc ⊢
    exact Prod.ext (sub_eq_zero.1 (congrArg Prod.fst hc)) (sub_eq_zero.1 (congrArg Prod.snd hc))
  | fixed => exact False.elim hc

/-- the convergence hypothesis of the moment-matching theorems in terms of the residual the driver evaluates on every
generated case: `Converged` holds exactly when `suffResidual` vanishes (Beta), resp. when it vanishes and the
logarithm is a homomorphism at the one quotient formed (Gamma) -/
theorem converged_iff_residual_zero {K : Type} [Field K] [LinearOrder K] (fn : Fn K) (sp : Sp K) (m1 m2 : K) :
    (Converged fn sp .beta m1 m2 ↔ suffResidual fn sp .beta m1 m2 = (0, 0)) ∧
    (Converged fn sp .gamma m1 m2 ↔
      (suffResidual fn sp .gamma m1 m2 = (0, 0) ∧ invpsilog fn sp (m1 - fn.log m2) ≠ 0 ∧ m2 ≠ 0 ∧
        fn.log (invpsilog fn sp (m1 - fn.log m2) / m2) = fn.log (invpsilog fn sp (m1 - fn.log m2)) - fn.log m2)) := by
  refine ⟨Iff.rfl, ?_⟩
  simp only [Converged, suffResidual, Prod.mk.injEq, and_true, sub_eq_zero]

/-- every family: the statistics `project` hands on are the weighted means of `t(x)` over the samples -/
theorem weightedStatsT_eq (ts : List (K × K)) (ws : List K) (hlen : ts.length = ws.length) (hn : ts ≠ [])
    (hw : sumL ws ≠ 0) :
    weightedStatsT ts ws =
      (sumL (List.zipWith (fun t w => t.1 * w) ts ws) / sumL ws,
       sumL (List.zipWith (fun t w => t.2 * w) ts ws) / sumL ws) :=
  Prod.ext (meanL_zipWith_normalised (fun t : K × K => t.1) ts ws hlen hn)
    (meanL_zipWith_normalised (fun t : K × K => t.2) ts ws hlen hn)

/-- the member returned by `project` has expected sufficient statistics equal to the weighted sample means of `t(x)`,
when the inversion of those statistics has converged -/
theorem projectX_moment_matching {fn : Fn K} (hs : SqrtLaw fn) (sp : Sp K) (fam : Family) (xs ws : List K) (ln : K)
    (id : Nat) (hlen : xs.length = ws.length) (hn : xs ≠ []) (hw : sumL ws ≠ 0)
    (hc : Converged fn sp fam
      (sumL (List.zipWith (fun t w => t.1 * w) (xs.map (toCanonical fn sp fam)) ws) / sumL ws)
      (sumL (List.zipWith (fun t w => t.2 * w) (xs.map (toCanonical fn sp fam)) ws) / sumL ws)) :
    (projectWX fn sp fam xs ws ln id).expectedStats fn sp =
      (sumL (List.zipWith (fun t w => t.1 * w) (xs.map (toCanonical fn sp fam)) ws) / sumL ws,
       sumL (List.zipWith (fun t w => t.2 * w) (xs.map (toCanonical fn sp fam)) ws) / sumL ws) := by
  have hts : (xs.map (toCanonical fn sp fam)) ≠ [] := by simpa using hn
  simp only [projectWX, weightedStatsT_eq _ ws (by simpa using hlen) hts hw]
  exact fromSuffX_moment_matching hs sp fam _ _ ln id hc

/-- projection of a transformed message (repaired behaviour): the samples are mapped to the space of the base
message, the base message is fitted there, transforms and id are kept; so - when the inversion has converged - the
BASE message's expected sufficient statistics are the weighted means of `t(T x)` -/
theorem transformed_project_moment_matching {fn : Fn K} (hs : SqrtLaw fn) (sp : Sp K) (t : TMsg K) (xs ws : List K)
    (ln : K) (id : Nat) (hlen : xs.length = ws.length) (hn : xs ≠ []) (hw : sumL ws ≠ 0)
    (hc : Converged fn sp t.base.fam
      (sumL (List.zipWith (fun s w => s.1 * w) ((xs.map (transformChain fn t.trs)).map (toCanonical fn sp t.base.fam)) ws) / sumL ws)
      (sumL (List.zipWith (fun s w => s.2 * w) ((xs.map (transformChain fn t.trs)).map (toCanonical fn sp t.base.fam)) ws) / sumL ws)) :
    (∀ lws, (M.projectX fn sp (.transformed t) xs lws id).trs = t.trs ∧
      (M.projectX fn sp (.transformed t) xs lws id).base =
        projectX fn sp t.base.fam (xs.map (transformChain fn t.trs)) lws id) ∧
    (projectWX fn sp t.base.fam (xs.map (transformChain fn t.trs)) ws ln id).expectedStats fn sp =
      (sumL (List.zipWith (fun s w => s.1 * w) ((xs.map (transformChain fn t.trs)).map (toCanonical fn sp t.base.fam)) ws) / sumL ws,
       sumL (List.zipWith (fun s w => s.2 * w) ((xs.map (transformChain fn t.trs)).map (toCanonical fn sp t.base.fam)) ws) / sumL ws) := by
  refine ⟨fun lws => ⟨rfl, rfl⟩, ?_⟩
  exact projectX_moment_matching hs sp t.base.fam _ ws ln id (by simpa using hlen) (by simpa using hn) hw hc

/-- `GammaMessage.from_mode(m, V)` (as the code computes it) has mean `m` -/
theorem fromMode_gamma_mean (fn : Fn K) (sp : Sp K) (m v ln : K) (id : Nat) (lo hi : K)
    (hα : 1 + m * m * v ≠ 0) : (fromMode fn sp .gamma m v ln id lo hi).mean = m :=
  div_div_cancel₀ hα

end field

/-! non-vacuity -/

/-- the convergence hypothesis can be met: Gamma (`ψ(x) = 2x`, `log = id` over `ℚ`: Newton is exact) … -/
example : Converged fnQ0 spQ .gamma 6 2 := by
  unfold Converged
  decide +kernel

/-- … and Beta (`ψ = id`: the equations are linear, one Newton step solves them) -/
example : Converged fnQ0 spQ2 .beta (-3) (-2) := by
  unfold Converged
  decide +kernel

/-- two valid Gamma messages whose product is valid: `Gamma(2, 1) * Gamma(1/2, 3)` has shape `3/2 > 0` -/
example : (1 : ℚ) < 2 + 1 / 2 := by norm_num

/-! ## the guard is necessary: outside the domain the code is *not* linear (known finding) -/

open Real in
/-- `NormalMessage(1, 2) ** -1` over the reals: `sqrt` of a negative number is `0`, the detour through
`(mean, sigma)` loses the natural parameters (the float code yields NaN). Linearity fails. -/
theorem normal_pow_refuted_outside_domain (sp : Fn ℝ) :
    let a : M ℝ := .plain { fam := .normal, p1 := 1, p2 := 2, logNorm := 0, id := 0, lower := 0, upper := 0 }
    (M.pow (realFn sp) a (-1)).natural ≠ (-1 * a.natural.1, -1 * a.natural.2) := by
  intro a h
  have h2 := congrArg Prod.snd h
  simp only [a, M.pow, M.lift, M.natural, M.base, Base.pow, Base.natural, fromNatural, invertNatural, calcNatural,
    realFn] at h2
  have hneg : -(1 / 2 : ℝ) / (-1 * (-(1 / (2 * 2)) / 2)) ≤ 0 := by norm_num
  rw [Real.sqrt_eq_zero_of_nonpos hneg] at h2
  norm_num at h2

/-! ## the density a normal message reports (real numbers, Mathlib's Gaussian) -/

open Real ProbabilityTheory MeasureTheory

/-- `exp(logpdf x)` of `NormalMessage(μ, σ)`, `σ > 0`, is the Gaussian density with mean `μ`, variance `σ²` -/
theorem normal_density_is_gaussian (sp : Fn ℝ) (a : Base ℝ) (hn : a.fam = .normal) (hσ : 0 < a.p2) (x : ℝ) :
    Real.exp (a.logpdf (realFn sp) x) = gaussianPDFReal a.p1 (varNN a.p2) x := by
  rw [exp_logpdf_normal_std sp a hn hσ x, gaussianPDFReal, coe_varNN, Real.sqrt_mul (mul_pos two_pos pi_pos).le,
    Real.sqrt_sq hσ.le, show -(x - a.p1) ^ 2 / (2 * a.p2 ^ 2) = -(((x - a.p1) / a.p2) ^ 2) / 2 by ring]
  ring

/-- … hence normalised over the whole line -/
theorem normal_density_normalised (sp : Fn ℝ) (a : Base ℝ) (hn : a.fam = .normal) (hσ : 0 < a.p2) :
    ∫ x, Real.exp (a.logpdf (realFn sp) x) = 1 := by
  simp only [normal_density_is_gaussian sp a hn hσ]
  exact integral_gaussianPDFReal_eq_one _ (varNN_ne_zero hσ)

theorem integral_normal_density_mul (sp : Fn ℝ) (a : Base ℝ) (hn : a.fam = .normal) (hσ : 0 < a.p2) (f : ℝ → ℝ) :
    ∫ x, Real.exp (a.logpdf (realFn sp) x) * f x = ∫ x, f x ∂gaussianReal a.p1 (varNN a.p2) := by
  simp only [normal_density_is_gaussian sp a hn hσ]
  exact (integral_gaussianReal_eq_integral_smul (varNN_ne_zero hσ)).symm

/-- … with the `mean` the message reports -/
theorem normal_density_mean (sp : Fn ℝ) (a : Base ℝ) (hn : a.fam = .normal) (hσ : 0 < a.p2) :
    ∫ x, Real.exp (a.logpdf (realFn sp) x) * x = a.mean := by
  rw [integral_normal_density_mul sp a hn hσ fun x => x, integral_id_gaussianReal]
  simp [Base.mean, hn]

/-- … and the `variance` it reports -/
theorem normal_density_variance (sp : Fn ℝ) (a : Base ℝ) (hn : a.fam = .normal) (hσ : 0 < a.p2) :
    ∫ x, Real.exp (a.logpdf (realFn sp) x) * (x - a.mean) ^ 2 = a.variance (realFn sp) := by
  have h2 := variance_fun_id_gaussianReal (μ := a.p1) (v := varNN a.p2)
  rw [variance_eq_integral measurable_id'.aemeasurable, integral_id_gaussianReal] at h2
  rw [integral_normal_density_mul sp a hn hσ fun x => (x - a.mean) ^ 2, show a.mean = a.p1 by simp [Base.mean, hn], h2]
  simp [Base.variance, hn, pow_two]

/-! ## transformed messages: the stack is undone in the right order, the density carries the determinant -/

section transforms
variable {F : Type} [Field F]

/-- `_inverse_transform(_transform(x)) = x`: `_transform` applies the stack last-to-first, `_inverse_transform`
first-to-last, so each transform meets its own inverse -/
theorem inverse_transform_roundtrip (fn : Fn F) (trs : List (Tr F)) (x : F) (h : ChainOK fn trs x) :
    inverseChain fn trs (transformChain fn trs x) = x := by
  induction trs with
  | nil => rfl
  | cons t rest ih =>
    obtain ⟨hrest, ht⟩ := h
    show inverseChain fn rest (t.inv fn (t.apply fn (transformChain fn rest x))) = x
    rw [ht]; exact ih hrest

/-- a `LinearShiftTransform` with non-zero scale is undone by its inverse everywhere -/
theorem shift_invAt (fn : Fn F) (s c y : F) (hc : c ≠ 0) : InvAt fn (.shift s c) y := by
  show (y - s) / c * c + s = y
  rw [div_mul_cancel₀ _ hc, sub_add_cancel]

theorem transformDet_fst (fn : Fn F) (trs : List (Tr F)) (x : F) :
    (transformDet fn trs x).1 = transformChain fn trs x := by
  induction trs with
  | nil => rfl
  | cons t rest ih => simp only [transformDet, ih]; rfl

/-- `factor(x) = base.logpdf(T x) + log|det|` and `logpdf(x) = base.logpdf(T x)`: the two differ exactly by
the accumulated log-determinant (the known finding about `TransformedMessage.logpdf`) -/
theorem factor_eq_logpdf_add_logdet (fn : Fn F) (m : M F) (x : F) :
    m.factor fn x = m.logpdf fn x + (transformDet fn m.trs x).2 := by
  simp only [M.factor, M.logpdf, transformDet_fst]

end transforms

theorem real_invAt (sp : Fn ℝ) (y : ℝ) :
    (0 < y → InvAt (realFn sp) .log y) ∧ InvAt (realFn sp) .exp y ∧ (0 < y → InvAt (realFn sp) .log10 y) := by
  refine ⟨Real.exp_log, Real.log_exp y, fun hy => ?_⟩
  show (10 : ℝ) ^ (Real.log y / Real.log 10) = y
  rw [Real.rpow_def_of_pos (by norm_num), mul_div_cancel₀ _ (Real.log_pos (by norm_num)).ne', Real.exp_log hy]

/-- each transform's `log_det` is the logarithm of its (positive) derivative -/
theorem logDet_is_log_deriv (sp : Fn ℝ) (x : ℝ) :
    (∀ s c : ℝ, 0 < c → HasDerivAt (Tr.apply (realFn sp) (.shift s c)) (Real.exp (Tr.logDet (realFn sp) (.shift s c) x)) x) ∧
    (0 < x → HasDerivAt (Tr.apply (realFn sp) .log) (Real.exp (Tr.logDet (realFn sp) .log x)) x) ∧
    (0 < x → HasDerivAt (Tr.apply (realFn sp) .log10) (Real.exp (Tr.logDet (realFn sp) .log10 x)) x) ∧
    HasDerivAt (Tr.apply (realFn sp) .exp) (Real.exp (Tr.logDet (realFn sp) .exp x)) x := by
  refine ⟨fun s c hc => ?_, fun hx => ?_, fun hx => ?_, ?_⟩
  · have hd : 1 / c = Real.exp (-Real.log c) := by rw [Real.exp_neg, Real.exp_log hc, one_div]
    exact (((hasDerivAt_id x).sub_const s).div_const c).congr_deriv hd
  · exact (Real.hasDerivAt_log hx.ne').congr_deriv
      ((Real.exp_log (one_div_pos.2 hx)).trans (one_div x)).symm
  · have hl : 0 < Real.log (2 + 2 + 2 + 2 + 2) := Real.log_pos (by norm_num)
    have hd : x⁻¹ / Real.log 10 = Real.exp (Real.log (1 / x / Real.log (2 + 2 + 2 + 2 + 2))) := by
      rw [Real.exp_log (div_pos (one_div_pos.2 hx) hl), one_div]; norm_num
    exact ((Real.hasDerivAt_log hx.ne').div_const (Real.log 10)).congr_deriv hd
  · exact (Real.hasDerivAt_exp x).congr_deriv (congrArg Real.exp (Real.log_exp x)).symm

/-- the accumulated log-determinant of `_transform_det` is the logarithm of the derivative of the whole `_transform`
(chain rule through any stack) … -/
theorem transformDet_is_log_deriv (fn : Fn ℝ) (trs : List (Tr ℝ)) (x : ℝ) (h : DerivOK fn trs x) :
    HasDerivAt (transformChain fn trs) (Real.exp (transformDet fn trs x).2) x := by
  induction trs with
  | nil => exact (hasDerivAt_id x).congr_deriv Real.exp_zero.symm
  | cons t rest ih =>
    refine (HasDerivAt.comp x h.2 (ih h.1)).congr_deriv ?_
    rw [mul_comm, ← Real.exp_add, ← transformDet_fst]
    rfl

theorem exp_factor (fn : Fn ℝ) (m : M ℝ) (x : ℝ) :
    Real.exp (m.factor fn x) =
      Real.exp (m.base.logpdf fn (transformChain fn m.trs x)) * Real.exp (transformDet fn m.trs x).2 := by
  simp only [M.factor, transformDet_fst, Real.exp_add]

/-- … so the density a transformed message reports, `exp(factor x)`, is the base density at the
transformed point times the derivative of the transform: `p(x) = p_base(T x) · T′(x)`. -/
theorem transformed_density_change_of_variables (fn : Fn ℝ) (m : M ℝ) (x : ℝ) (h : DerivOK fn m.trs x) :
    ∃ d : ℝ, HasDerivAt (transformChain fn m.trs) d x ∧ 0 < d ∧
      Real.exp (m.factor fn x) = Real.exp (m.base.logpdf fn (transformChain fn m.trs x)) * d :=
  ⟨Real.exp (transformDet fn m.trs x).2, transformDet_is_log_deriv fn m.trs x h, Real.exp_pos _, exp_factor fn m x⟩

/-! ## non-vacuity: concrete messages meeting the hypotheses -/

example (sp : Fn ℝ) : SqrtLaw (realFn sp) := realFn_sqrtLaw sp

/-- `NormalMessage(1, 2) * NormalMessage(1/2, 3/2)`: the sum of natural parameters is in the domain -/
example : InDomain (K := ℚ) .normal
    ((calcNatural .normal (1 : ℚ) 2).1 + (calcNatural .normal (1 / 2 : ℚ) (3 / 2)).1,
     (calcNatural .normal (1 : ℚ) 2).2 + (calcNatural .normal (1 / 2 : ℚ) (3 / 2)).2) := by
  intro _; simp only [calcNatural]; norm_num

/-- the stack of a `UniformPrior(2, 5)` message, `[phi, shift 2 3]`, is undone in order as soon as
`Φ(Φ⁻¹ u) = u` at the one point where it is used -/
example (fn : Fn ℚ) (x : ℚ) (hΦ : fn.ndtr (fn.ndtri ((x - 2) / 3)) = (x - 2) / 3) :
    inverseChain fn [.phi, .shift 2 3] (transformChain fn [.phi, .shift 2 3] x) = x := by
  apply inverse_transform_roundtrip
  refine ⟨⟨trivial, shift_invAt fn 2 3 _ (by norm_num)⟩, ?_⟩
  simpa [InvAt, Tr.apply, Tr.inv, transformChain] using hΦ

/-! ## stacking transforms: CDF, density and quantiles of a transformed message built on a transformed message -/

section stacking
variable {F : Type} [Field F]

/-- `_transform` of a stack `trs ++ ts` applies `ts` (the outer transforms) first -/
theorem transformChain_append (fn : Fn F) (trs ts : List (Tr F)) (x : F) :
    transformChain fn (trs ++ ts) x = transformChain fn trs (transformChain fn ts x) := by
  simp [transformChain, List.foldr_append]

/-- `_inverse_transform` undoes `trs` first -/
theorem inverseChain_append (fn : Fn F) (trs ts : List (Tr F)) (x : F) :
    inverseChain fn (trs ++ ts) x = inverseChain fn ts (inverseChain fn trs x) := by
  simp [inverseChain, List.foldl_append]

/-- the log-determinants of stacked transforms add, each taken at its own input -/
theorem transformDet_append (fn : Fn F) (trs ts : List (Tr F)) (x : F) :
    transformDet fn (trs ++ ts) x =
      ((transformDet fn trs (transformChain fn ts x)).1,
       (transformDet fn ts x).2 + (transformDet fn trs (transformChain fn ts x)).2) := by
  induction trs with
  | nil => exact Prod.ext (transformDet_fst fn ts x) (add_zero _).symm
  | cons t rest ih => simp only [List.cons_append, transformDet, ih, add_assoc]

/-- `TransformedMessage(m, *ts)` with `m` itself transformed to any depth: CDF, `factor` and `logpdf` are `m`'s at
the transformed point (`factor` plus the log-determinant of `ts`, which `logpdf` omits); quantiles and mean are
`m`'s mapped back through `ts` -/
theorem wrap_change_of_variables (fn : Fn F) (m : M F) (ts : List (Tr F)) (id : Option Nat) (lo hi x u : F) :
    (m.wrap ts id lo hi).cdf fn x = m.cdf fn (transformChain fn ts x) ∧
    (m.wrap ts id lo hi).factor fn x = m.factor fn (transformChain fn ts x) + (transformDet fn ts x).2 ∧
    (m.wrap ts id lo hi).logpdf fn x = m.logpdf fn (transformChain fn ts x) ∧
    (m.wrap ts id lo hi).valueFor fn u = inverseChain fn ts (m.valueFor fn u) ∧
    (m.wrap ts id lo hi).mean fn = inverseChain fn ts (m.mean fn) ∧
    (m.wrap ts id lo hi).natural = m.natural := by
  -- the wrapped message has base `m.base` and stack `m.trs ++ ts`
  refine ⟨congrArg (m.base.cdf fn) (transformChain_append fn m.trs ts x), ?_,
    congrArg (m.base.logpdf fn) (transformChain_append fn m.trs ts x), inverseChain_append fn m.trs ts _,
    inverseChain_append fn m.trs ts _, rfl⟩
  simp only [M.factor, M.wrap, M.trs, M.base, transformDet_append]; ring

end stacking

/-! ## an array message times a scalar message (known finding, modelled as the code behaves) -/

/-- PARTIAL: the product / quotient of a two-element message with a scalar message is the element-wise one only
under the explicit guard that the scalar operand's two natural parameters coincide -/
theorem mixed_shape_broadcast_partial {K : Type} [Field K] (fn : Fn K) (a : Base K) (eb : K × K) (lnB : K) (j : Nat)
    (hguard : eb.1 = eb.2) : a.mulB fn eb j = a.mul fn eb ∧ a.divB fn eb lnB j = a.div fn eb lnB := by
  have e : (if j = 0 then eb.1 else eb.2) = eb.1 := by split <;> simp [hguard]
  have e' : (eb.1, eb.1) = eb := by ext <;> simp [hguard]
  simp only [Base.mulB, Base.divB, e, e', and_self]

/-- the guard is necessary: `GammaMessage([1, 2], [1, 0.5]) * GammaMessage(2, 3)` - the second element of the result has
shape `-1` (an invalid message) where the element-wise product has shape `3` -/
theorem mixed_shape_broadcast_refuted (fn : Fn ℚ) :
    let a1 : Base ℚ := { fam := .gamma, p1 := 2, p2 := 1 / 2, logNorm := 0, id := 0, lower := 0, upper := 0 }
    let eb : ℚ × ℚ := calcNatural .gamma 2 3
    (a1.mulB fn eb 1).p1 = -1 ∧ (a1.mul fn eb).p1 = 3 := by
  simp only [Base.mulB, Base.mul, Base.natural, calcNatural, fromNatural, invertNatural]
  norm_num

open Set

/-! ## the densities Gamma and Beta messages report (real numbers, Mathlib's Gamma function) -/

/-- `exp(logpdf x)` of `GammaMessage(α, β)`, `α, β > 0`, at `x > 0` is Mathlib's Gamma density (shape `α`, rate `β`) -/
theorem gamma_density_is_gammaPDF (sp0 : Fn ℝ) (sp : Sp ℝ) (a : Base ℝ) (hg : a.fam = .gamma) (hα : 0 < a.p1)
    (hβ : 0 < a.p2) (x : ℝ) (hx : 0 < x) :
    Real.exp (a.logpdfX (realFn sp0) (realSp sp) x) = gammaPDFReal a.p1 a.p2 x := by
  rw [exp_logpdf_gamma_formula sp0 sp a hg hα hβ x hx, gammaPDFReal, if_pos hx.le]
  ring

/-- the moments of the Gamma density: for `s > -α`, `∫₀^∞ p(x) x^s dx = Γ(α + s) / (Γ(α) β^s)` -/
theorem gamma_density_moment (sp0 : Fn ℝ) (sp : Sp ℝ) (a : Base ℝ) (hg : a.fam = .gamma) (hα : 0 < a.p1)
    (hβ : 0 < a.p2) (s : ℝ) (hs : 0 < a.p1 + s) :
    ∫ x in Ioi 0, Real.exp (a.logpdfX (realFn sp0) (realSp sp) x) * x ^ s =
      Real.Gamma (a.p1 + s) / (Real.Gamma a.p1 * a.p2 ^ s) := by
  have hcongr : ∀ x ∈ Ioi (0 : ℝ), Real.exp (a.logpdfX (realFn sp0) (realSp sp) x) * x ^ s =
      a.p2 ^ a.p1 / Real.Gamma a.p1 * (x ^ (a.p1 + s - 1) * Real.exp (-(a.p2 * x))) := by
    intro x hx
    rw [exp_logpdf_gamma_formula sp0 sp a hg hα hβ x hx, add_sub_right_comm, Real.rpow_add hx]
    ring
  rw [setIntegral_congr_fun measurableSet_Ioi hcongr, integral_const_mul,
    Real.integral_rpow_mul_exp_neg_mul_Ioi hs hβ, Real.div_rpow zero_le_one hβ.le, Real.one_rpow, Real.rpow_add hβ,
    one_div_mul_eq_div, div_mul_div_comm, mul_left_comm, mul_div_mul_left _ _ (Real.rpow_pos_of_pos hβ _).ne']

/-- … hence normalised over its support `(0, ∞)` -/
theorem gamma_density_normalised (sp0 : Fn ℝ) (sp : Sp ℝ) (a : Base ℝ) (hg : a.fam = .gamma) (hα : 0 < a.p1)
    (hβ : 0 < a.p2) : ∫ x in Ioi 0, Real.exp (a.logpdfX (realFn sp0) (realSp sp) x) = 1 := by
  have h := gamma_density_moment sp0 sp a hg hα hβ 0 (by rwa [add_zero])
  simp only [Real.rpow_zero, mul_one, add_zero] at h
  rw [h]; exact div_self (Real.Gamma_pos_of_pos hα).ne'

/-- … with the `mean` the message reports, `α / β` -/
theorem gamma_density_mean (sp0 : Fn ℝ) (sp : Sp ℝ) (a : Base ℝ) (hg : a.fam = .gamma) (hα : 0 < a.p1)
    (hβ : 0 < a.p2) : ∫ x in Ioi 0, Real.exp (a.logpdfX (realFn sp0) (realSp sp) x) * x = a.mean := by
  have h := gamma_density_moment sp0 sp a hg hα hβ 1 (add_pos hα one_pos)
  simp only [Real.rpow_one] at h
  rw [h, Real.Gamma_add_one hα.ne', mul_comm a.p1, mul_div_mul_left _ _ (Real.Gamma_pos_of_pos hα).ne', Base.mean, hg]

/-- … and second moment `mean² + variance` for the `variance` it reports, `α / β²` -/
theorem gamma_density_second_moment (sp0 : Fn ℝ) (sp : Sp ℝ) (a : Base ℝ) (hg : a.fam = .gamma) (hα : 0 < a.p1)
    (hβ : 0 < a.p2) :
    ∫ x in Ioi 0, Real.exp (a.logpdfX (realFn sp0) (realSp sp) x) * x ^ (2 : ℝ) =
      a.mean * a.mean + a.variance (realFn sp0) := by
  have h := gamma_density_moment sp0 sp a hg hα hβ 2 (add_pos hα two_pos)
  rw [h, ← one_add_one_eq_two, ← add_assoc, Real.Gamma_add_one (add_pos hα one_pos).ne', Real.Gamma_add_one hα.ne',
    ← mul_assoc, mul_comm _ (Real.Gamma a.p1), mul_div_mul_left _ _ (Real.Gamma_pos_of_pos hα).ne', one_add_one_eq_two,
    Real.rpow_two]
  simp only [Base.mean, Base.variance, hg]
  ring

/-- `exp(logpdf x)` of `BetaMessage(α, β)`, `α, β > 0`, at `0 < x < 1` is Mathlib's Beta density -/
theorem beta_density_is_betaPDF (sp0 : Fn ℝ) (sp : Sp ℝ) (a : Base ℝ) (hb : a.fam = .beta) (hα : 0 < a.p1)
    (hβ : 0 < a.p2) (x : ℝ) (hx0 : 0 < x) (hx1 : x < 1) :
    Real.exp (a.logpdfX (realFn sp0) (realSp sp) x) = betaPDFReal a.p1 a.p2 x := by
  rw [exp_logpdf_beta_formula sp0 sp a hb hα hβ x hx0 hx1, betaPDFReal, if_pos ⟨hx0, hx1⟩]

/-- … hence normalised over its support `(0, 1)` -/
theorem beta_density_normalised (sp0 : Fn ℝ) (sp : Sp ℝ) (a : Base ℝ) (hb : a.fam = .beta) (hα : 0 < a.p1)
    (hβ : 0 < a.p2) :
    ∫⁻ x in Ioo 0 1, ENNReal.ofReal (Real.exp (a.logpdfX (realFn sp0) (realSp sp) x)) = 1 := by
  rw [← setLIntegral_beta_formula hα hβ]
  exact setLIntegral_congr_fun measurableSet_Ioo fun x hx =>
    congrArg _ (exp_logpdf_beta_formula sp0 sp a hb hα hβ x hx.1 hx.2)

/-- the moments of the Beta density: for `s > -α`, `∫₀¹ p(x) x^s dx = B(α + s, β) / B(α, β)` -/
theorem beta_density_moment (sp0 : Fn ℝ) (sp : Sp ℝ) (a : Base ℝ) (hb : a.fam = .beta) (hα : 0 < a.p1)
    (hβ : 0 < a.p2) (s : ℝ) (hs : 0 < a.p1 + s) :
    ∫⁻ x in Ioo 0 1, ENNReal.ofReal (Real.exp (a.logpdfX (realFn sp0) (realSp sp) x) * x ^ s) =
      ENNReal.ofReal (ProbabilityTheory.beta (a.p1 + s) a.p2 / ProbabilityTheory.beta a.p1 a.p2) := by
  have hB : 0 < ProbabilityTheory.beta a.p1 a.p2 := beta_pos hα hβ
  have hB' : 0 < ProbabilityTheory.beta (a.p1 + s) a.p2 := beta_pos hs hβ
  have hcongr : ∀ x ∈ Ioo (0 : ℝ) 1,
      ENNReal.ofReal (Real.exp (a.logpdfX (realFn sp0) (realSp sp) x) * x ^ s) =
        ENNReal.ofReal (ProbabilityTheory.beta (a.p1 + s) a.p2 / ProbabilityTheory.beta a.p1 a.p2) *
          ENNReal.ofReal (1 / ProbabilityTheory.beta (a.p1 + s) a.p2 * x ^ (a.p1 + s - 1) * (1 - x) ^ (a.p2 - 1)) := by
    intro x hx
    rw [← ENNReal.ofReal_mul (div_pos hB' hB).le, exp_logpdf_beta_formula sp0 sp a hb hα hβ x hx.1 hx.2,
      add_sub_right_comm, Real.rpow_add hx.1, beta_formula_mul _ _ _ _ _ hB'.ne']
  rw [setLIntegral_congr_fun measurableSet_Ioo hcongr, lintegral_const_mul' _ _ ENNReal.ofReal_ne_top,
    setLIntegral_beta_formula hs hβ, mul_one]

/-- … its mean is the `mean` the message reports, `α / (α + β)` -/
theorem beta_density_mean (sp0 : Fn ℝ) (sp : Sp ℝ) (a : Base ℝ) (hb : a.fam = .beta) (hα : 0 < a.p1) (hβ : 0 < a.p2) :
    ∫⁻ x in Ioo 0 1, ENNReal.ofReal (Real.exp (a.logpdfX (realFn sp0) (realSp sp) x) * x) = ENNReal.ofReal a.mean := by
  have h := beta_density_moment sp0 sp a hb hα hβ 1 (add_pos hα one_pos)
  simp only [Real.rpow_one] at h
  rw [h, beta_add_one hα hβ, mul_div_assoc, div_self (beta_pos hα hβ).ne', mul_one, Base.mean, hb]

/-- … its second moment `mean² + variance` for the `variance` it reports -/
theorem beta_density_second_moment (sp0 : Fn ℝ) (sp : Sp ℝ) (a : Base ℝ) (hb : a.fam = .beta) (hα : 0 < a.p1)
    (hβ : 0 < a.p2) :
    ∫⁻ x in Ioo 0 1, ENNReal.ofReal (Real.exp (a.logpdfX (realFn sp0) (realSp sp) x) * x ^ (2 : ℝ)) =
      ENNReal.ofReal (a.mean * a.mean + a.variance (realFn sp0)) := by
  have hab : a.p1 + a.p2 ≠ 0 := (add_pos hα hβ).ne'
  have hab1 : a.p1 + a.p2 + 1 ≠ 0 := (add_pos (add_pos hα hβ) one_pos).ne'
  have h := beta_density_moment sp0 sp a hb hα hβ 2 (add_pos hα two_pos)
  rw [h, ← one_add_one_eq_two, ← add_assoc, beta_add_one (add_pos hα one_pos) hβ, beta_add_one hα hβ, ← mul_assoc,
    mul_div_assoc, div_self (beta_pos hα hβ).ne', mul_one, add_right_comm]
  simp only [Base.mean, Base.variance, hb]
  congr 1
  field_simp
  ring

/-! ## density ↔ CDF: any transformed message, the normal family and its transformed variants -/

/-- density ↔ CDF for transformed messages of any stack depth: where the base message's CDF has the base density as
its derivative, the CDF of the transformed message has `exp(factor)` as its derivative -/
theorem transformed_cdf_deriv_is_density (fn : Fn ℝ) (m : M ℝ) (x : ℝ) (h : DerivOK fn m.trs x)
    (hbase : HasDerivAt (m.base.cdf fn) (Real.exp (m.base.logpdf fn (transformChain fn m.trs x)))
      (transformChain fn m.trs x)) :
    HasDerivAt (m.cdf fn) (Real.exp (m.factor fn x)) x :=
  (HasDerivAt.comp x hbase (transformDet_is_log_deriv fn m.trs x h)).congr_deriv (exp_factor fn m x).symm

/-- non-vacuity: the stack of a `UniformPrior(2, 5)` message on top of a log transform is differentiable wherever
the inner point is positive -/
example (sp : Fn ℝ) (x : ℝ) (hx : 0 < (x - 2) / 3) : DerivOK (realFn sp) [.log, .shift 2 3] x := by
  refine ⟨⟨trivial, (logDet_is_log_deriv sp _).1 2 3 (by norm_num)⟩, ?_⟩
  exact (logDet_is_log_deriv sp _).2.1 hx

/-- density ↔ CDF for a `NormalMessage`: if the function the code takes from scipy as `ndtr` has the standard normal
density as its derivative (the one law of Φ used), then `cdf` has `exp(logpdf)` as its derivative everywhere -/
theorem normal_cdf_deriv_is_density (sp : Fn ℝ) (a : Base ℝ) (hn : a.fam = .normal) (hσ : 0 < a.p2)
    (hΦ : ∀ z : ℝ, HasDerivAt sp.ndtr (Real.exp (-(z ^ 2) / 2) / Real.sqrt (2 * π)) z) (x : ℝ) :
    HasDerivAt (a.cdf (realFn sp)) (Real.exp (a.logpdf (realFn sp) x)) x := by
  have hf : a.cdf (realFn sp) = sp.ndtr ∘ (fun y : ℝ => (y - a.p1) / a.p2) := by
    funext y; simp [Base.cdf, Base.mean, Base.sigma, hn, realFn]
  have hin : HasDerivAt (fun y : ℝ => (y - a.p1) / a.p2) (1 / a.p2) x :=
    ((hasDerivAt_id x).sub_const a.p1).div_const a.p2
  rw [hf, exp_logpdf_normal_std sp a hn hσ x]
  exact HasDerivAt.comp x (hΦ ((x - a.p1) / a.p2)) hin

/-- … and therefore the CDF of every transformed variant of it (uniform, log, log10, shifted, any stack) has
`exp(factor)` as its derivative -/
theorem transformed_normal_cdf_deriv_is_density (sp : Fn ℝ) (m : M ℝ) (hn : m.base.fam = .normal) (hσ : 0 < m.base.p2)
    (hΦ : ∀ z : ℝ, HasDerivAt sp.ndtr (Real.exp (-(z ^ 2) / 2) / Real.sqrt (2 * π)) z) (x : ℝ)
    (h : DerivOK (realFn sp) m.trs x) :
    HasDerivAt (m.cdf (realFn sp)) (Real.exp (m.factor (realFn sp) x)) x :=
  transformed_cdf_deriv_is_density (realFn sp) m x h (normal_cdf_deriv_is_density sp m.base hn hσ hΦ _)

/-- non-vacuity of the law of Φ: a function with the standard normal density as derivative exists -/
example : ∃ Φ : ℝ → ℝ, ∀ z : ℝ, HasDerivAt Φ (Real.exp (-(z ^ 2) / 2) / Real.sqrt (2 * π)) z :=
  ⟨fun z => ∫ t in (0 : ℝ)..z, Real.exp (-(t ^ 2) / 2) / Real.sqrt (2 * π),
   fun z => (Continuous.integral_hasStrictDerivAt (by fun_prop) 0 z).hasDerivAt⟩

end AF.C17
