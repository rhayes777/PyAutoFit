import AFProofs.Lemmas.Grid
import AFProofs.Lemmas.GridPhys
import AFProofs.Lemmas.GridComp

/-!
# C16 — grid searches and sensitivity mapping: cells, tiling, result order, reported shape/limits

Property theorems about the `Grid` model (`AFModel/Grid.lean`), for every number of dimensions, every
number of steps, every arithmetic `N : Num V` (counting / order / data movement) and for the exact
layer `ratNum` (tiling). The model is tied to /repo by `harness/c16.py`.

Finding flags of `Cfg`: the main theorems are about the repaired behaviour (`flag = true`); the
behaviour of the pinned commit (`flag = false`) is covered by the `…_partial` theorems under an
explicit decidable guard and by the `…_refuted_when_…` witnesses.
-/

namespace AF.C16
open AF.Grid

variable {V : Type}

/-! ## one cell per lattice point, in row-major order -/

theorem lattice_length (ns : List Nat) : (lattice ns).length = prod ns :=
  Grid.lattice_length ns

/-- one grid-search job per lattice point -/
theorem cells_count (N : Num V) (dims : List (Dim V)) :
    (gridCells N dims).length = prod (counts dims) :=
  map_lattice_length dims _

/-- `make_lists` returns one unit list per lattice point -/
theorem unitLists_count (N : Num V) (centre : Bool) (dims : List (Dim V)) :
    (unitLists N centre dims).length = prod (counts dims) :=
  map_lattice_length dims _

/-- sensitivity mapping makes one perturbation cell per lattice point -/
theorem sensCells_count (N : Num V) (scale : V) (dims : List (Dim V)) :
    (sensCells N scale dims).length = prod (counts dims) :=
  map_lattice_length dims _

theorem grid_count_general (N : Num V) (cfg : Cfg) (n : Nat) (ranges : List (V × V)) :
    (gridModel N cfg n ranges).length = countOf cfg n ^ ranges.length := by
  rw [gridModel, cells_count, counts_gridDims, prod_replicate]

/-- **"a grid search over d parameters with n steps fits exactly n^d cells"** -/
theorem grid_fits_n_pow_d (N : Num V) (cfg : Cfg) (h : cfg.integerSteps = true) (n : Nat)
    (ranges : List (V × V)) : (gridModel N cfg n ranges).length = n ^ ranges.length := by
  rw [grid_count_general, countOf_of_integerSteps cfg h]

example : (gridModel ratNum {} 3 [(0, 1), (2, 5)]).length = 3 ^ 2 :=
  grid_fits_n_pow_d ratNum {} rfl 3 _

/-- sensitivity mapping with per-dimension step counts fits their product many cells -/
theorem sens_count (N : Num V) (cfg : Cfg) (h : cfg.integerSteps = true) (scale : V)
    (dims : List ((V × V) × Nat)) :
    (sensCells N scale (sensDims N cfg dims)).length = prod (dims.map (·.2)) := by
  simp only [sensCells_count, counts_sensDims, countOf_of_integerSteps cfg h]

/-- sensitivity mapping: the reported shape is the tuple of per-dimension step counts (so with
`sens_count` its product is the number of cells) -/
theorem sens_shape (N : Num V) (cfg : Cfg) (dims : List ((V × V) × Nat)) :
    sensShape (sensDims N cfg dims) = dims.map (·.2) :=
  List.map_map ..

example : (sensCells ratNum 1 (sensDims ratNum {} [((0, 1), 2), ((2, 5), 3)])).length = 6 ∧
    sensShape (sensDims ratNum {} [(((0 : Rat), (1 : Rat)), 2), ((2, 5), 3)]) = [2, 3] :=
  ⟨sens_count ratNum {} rfl 1 _, rfl⟩

theorem digits_lt (ns : List Nat) (k : Nat) (hk : k < prod ns) :
    Forall₂ (· < ·) (digits ns k) ns :=
  (Grid.mem_lattice ns _).mp (List.mem_of_getElem? (Grid.lattice_row_major ns k hk))

/-- `ravel (unravel k) = k` -/
theorem index_digits (ns : List Nat) (k : Nat) (hk : k < prod ns) :
    index ns (digits ns k) = k :=
  Grid.index_digits ns k hk

/-- `unravel (ravel idx) = idx` for every in-range index tuple -/
theorem digits_index (ns idx : List Nat) (h : Forall₂ (· < ·) idx ns) :
    index ns idx < prod ns ∧ digits ns (index ns idx) = idx :=
  ⟨index_lt ns idx h, Grid.digits_index ns idx h⟩

/-- **row-major order**: the `k`-th lattice point is the mixed-radix expansion of `k`, first
dimension slowest -/
theorem lattice_row_major (ns : List Nat) (k : Nat) (hk : k < prod ns) :
    (lattice ns)[k]? = some (digits ns k) :=
  Grid.lattice_row_major ns k hk

example : lattice [2, 3] = [[0, 0], [0, 1], [0, 2], [1, 0], [1, 1], [1, 2]] ∧
    digits [2, 3] 4 = [1, 1] ∧ index [2, 3] [1, 1] = 4 := by decide +kernel

theorem mem_lattice (ns idx : List Nat) : idx ∈ lattice ns ↔ Forall₂ (· < ·) idx ns :=
  Grid.mem_lattice ns idx

/-- no index tuple is fitted twice -/
theorem lattice_nodup (ns : List Nat) : (lattice ns).Nodup :=
  Grid.lattice_nodup ns

/-- the `k`-th grid-search job is the cell with the row-major digits of `k` -/
theorem cells_row_major (N : Num V) (dims : List (Dim V)) (k : Nat) (hk : k < prod (counts dims)) :
    (gridCells N dims)[k]? = some (cellAt (gridCellDim N) dims (digits (counts dims) k)) :=
  map_lattice_row_major dims _ k hk

/-- the `k`-th reported unit list (`physical_lower_limits_lists` etc.) is that of the same digits -/
theorem unitLists_row_major (N : Num V) (centre : Bool) (dims : List (Dim V)) (k : Nat)
    (hk : k < prod (counts dims)) :
    (unitLists N centre dims)[k]? = some (cellAt (unitValue N centre) dims (digits (counts dims) k)) :=
  map_lattice_row_major dims _ k hk

/-- the `k`-th sensitivity job is the perturbation cell with the row-major digits of `k` -/
theorem sensCells_row_major (N : Num V) (scale : V) (dims : List (Dim V)) (k : Nat)
    (hk : k < prod (counts dims)) :
    (sensCells N scale dims)[k]? = some (cellAt (sensCellDim N scale) dims (digits (counts dims) k)) :=
  map_lattice_row_major dims _ k hk

/-- entry `[i₁,…,i_d]` of the reshaped (`native`) array is the cell with those per-dimension indices -/
theorem native_entry (ns idx : List Nat) (h : Forall₂ (· < ·) idx ns) :
    (lattice ns)[index ns idx]? = some idx :=
  Grid.native_entry ns idx h

example : (lattice [2, 3, 4])[index [2, 3, 4] [1, 2, 3]]? = some [1, 2, 3] :=
  native_entry _ _ (.cons (by decide) (.cons (by decide) (.cons (by decide) .nil)))

/-! ## tiling of one dimension (exact arithmetic); holds for every flag setting -/

/-- cover, left end: the first cell starts at the prior's lower limit -/
theorem tile_first (cfg : Cfg) (lo hi : Rat) (n : Nat) :
    (gridCellDim ratNum (mkDim ratNum cfg lo hi n) 0).1 = lo := by
  rw [gridCellDim_fst, gridPt_zero]

/-- cover, right end: the last cell ends at the prior's upper limit -/
theorem tile_last (cfg : Cfg) (lo hi : Rat) (n k : Nat) (hk : k + 1 = n) :
    (gridCellDim ratNum (mkDim ratNum cfg lo hi n) k).2 = hi := by
  rw [gridCellDim_snd, hk, gridPt_last lo hi n (hk ▸ Nat.succ_pos k)]

/-- contiguous: each cell ends where the next one starts -/
theorem tile_adjacent (cfg : Cfg) (lo hi : Rat) (n k : Nat) :
    (gridCellDim ratNum (mkDim ratNum cfg lo hi n) k).2
      = (gridCellDim ratNum (mkDim ratNum cfg lo hi n) (k + 1)).1 := by
  rw [gridCellDim_snd, gridCellDim_fst]

/-- every cell has positive width -/
theorem tile_width (cfg : Cfg) (lo hi : Rat) (n k : Nat) (hn : 0 < n) (hlt : lo < hi) :
    (gridCellDim ratNum (mkDim ratNum cfg lo hi n) k).1
      < (gridCellDim ratNum (mkDim ratNum cfg lo hi n) k).2 := by
  rw [gridCellDim_fst, gridCellDim_snd]; exact gridPt_strict lo hi n hn hlt (Nat.lt_succ_self k)

/-- non-overlapping: an earlier cell ends no later than a later one starts -/
theorem tile_ordered (cfg : Cfg) (lo hi : Rat) (n j k : Nat) (hle : lo ≤ hi) (hjk : j < k) :
    (gridCellDim ratNum (mkDim ratNum cfg lo hi n) j).2
      ≤ (gridCellDim ratNum (mkDim ratNum cfg lo hi n) k).1 := by
  rw [gridCellDim_fst, gridCellDim_snd]; exact gridPt_mono lo hi n hle hjk

/-- cover: every point of the prior's range lies in one of the `n` cells -/
theorem tile_cover_dim (cfg : Cfg) (lo hi : Rat) (n : Nat) (hn : 0 < n) (x : Rat)
    (hx : lo ≤ x ∧ x ≤ hi) :
    ∃ k, k < n ∧ (gridCellDim ratNum (mkDim ratNum cfg lo hi n) k).1 ≤ x ∧
      x ≤ (gridCellDim ratNum (mkDim ratNum cfg lo hi n) k).2 := by
  have h0 : gridPt lo hi n 0 ≤ x := (gridPt_zero lo hi n).symm ▸ hx.1
  have h1 : x ≤ gridPt lo hi n n := (gridPt_last lo hi n hn).symm ▸ hx.2
  obtain ⟨k, hk, hk1, hk2⟩ := chain_cover (gridPt lo hi n) x h0 n hn h1
  exact ⟨k, hk, hk1, (gridCellDim_snd cfg lo hi n k).symm ▸ hk2⟩

example : (List.range 3).map (gridCellDim ratNum (mkDim ratNum {} 2 5 3))
    = [(2, 3), (3, 4), (4, 5)] := by decide +kernel

/-! ## tiling in d dimensions (exact arithmetic), per-dimension step counts allowed -/

/-- cover, any per-dimension counts: every point of the box lies in a fitted cell -/
theorem tile_cover_dims (cfg : Cfg) (h : cfg.integerSteps = true) (dims : List (Dim Rat))
    (hd : ∀ d ∈ dims, ∃ lo hi n, 0 < n ∧ d = mkDim ratNum cfg lo hi n) (x : List Rat)
    (hx : Forall₂ (fun d xi => d.lo ≤ xi ∧ xi ≤ d.hi) dims x) :
    ∃ cell ∈ gridCells ratNum dims, Forall₂ (fun c xi => c.1 ≤ xi ∧ xi ≤ c.2) cell x := by
  -- the 1-d cover, coordinate by coordinate, gives the index tuple of a cell that holds `x`
  suffices ∃ idx, Forall₂ (· < ·) idx (counts dims) ∧
      Forall₂ (fun c xi => c.1 ≤ xi ∧ xi ≤ c.2) (cellAt (gridCellDim ratNum) dims idx) x by
    obtain ⟨idx, h1, h2⟩ := this
    exact ⟨_, List.mem_map.mpr ⟨idx, (Grid.mem_lattice _ _).mpr h1, rfl⟩, h2⟩
  induction hx with
  | nil => exact ⟨[], .nil, .nil⟩
  | cons hxi _ ih =>
    obtain ⟨lo, hi, n, hn, rfl⟩ := hd _ List.mem_cons_self
    obtain ⟨k, hk, hk'⟩ := tile_cover_dim cfg lo hi n hn _ hxi
    obtain ⟨idx, h1, h2⟩ := ih fun d hm => hd d (List.mem_cons_of_mem _ hm)
    exact ⟨k :: idx, .cons (Nat.lt_of_lt_of_eq hk (countOf_of_integerSteps cfg h n).symm) h1, .cons hk' h2⟩

/-- non-overlapping, any per-dimension counts: two different fitted cells are separated (share at
most a face) in some dimension -/
theorem tile_disjoint_dims (cfg : Cfg) (dims : List (Dim Rat))
    (hd : ∀ d ∈ dims, ∃ lo hi n, lo ≤ hi ∧ d = mkDim ratNum cfg lo hi n) :
    (gridCells ratNum dims).Pairwise fun a b =>
      ∃ i, ∃ (ha : i < a.length) (hb : i < b.length), a[i].2 ≤ b[i].1 ∨ b[i].2 ≤ a[i].1 := by
  simp only [gridCells, List.pairwise_map]
  refine List.Pairwise.imp_of_mem ?_ (Grid.lattice_nodup (counts dims))
  intro a b ha hb hne
  have len : ∀ c ∈ lattice (counts dims), c.length = dims.length := fun c hc =>
    ((Grid.mem_lattice _ c).mp hc).length_eq.trans (List.length_map ..)
  -- two index tuples differ in some coordinate, where the 1-d cells are ordered
  obtain ⟨i, h1, _, hi⟩ := exists_getElem_ne a b ((len a ha).trans (len b hb).symm) hne
  have hdi : i < dims.length := len a ha ▸ h1
  obtain ⟨lo, hi', n, hle, he⟩ := hd dims[i] (List.getElem_mem hdi)
  have lc : ∀ c ∈ lattice (counts dims), i < (cellAt (gridCellDim ratNum) dims c).length :=
    fun c hc => by rw [cellAt, List.length_zipWith, len c hc, Nat.min_self]; exact hdi
  refine ⟨i, lc a ha, lc b hb, ?_⟩
  simp only [cellAt, List.getElem_zipWith, he]
  rcases Nat.lt_or_gt_of_ne hi with hlt | hgt
  · exact .inl (tile_ordered cfg lo hi' n _ _ hle hlt)
  · exact .inr (tile_ordered cfg lo hi' n _ _ hle hgt)

/-- **cover**: the cells of `GridSearch(number_of_steps = n)` cover the original box -/
theorem tile_cover (cfg : Cfg) (h : cfg.integerSteps = true) (n : Nat) (hn : 0 < n)
    (ranges : List (Rat × Rat)) (x : List Rat)
    (hx : Forall₂ (fun r xi => r.1 ≤ xi ∧ xi ≤ r.2) ranges x) :
    ∃ cell ∈ gridModel ratNum cfg n ranges, Forall₂ (fun c xi => c.1 ≤ xi ∧ xi ≤ c.2) cell x := by
  exact tile_cover_dims cfg h (gridDims ratNum cfg n ranges)
    (List.forall_mem_map.mpr fun r _ => ⟨r.1, r.2, n, hn, rfl⟩) x ((forall₂_map_left _ ranges x).mpr hx)

/-- **non-overlapping**: two different cells of a grid search have disjoint interiors -/
theorem tile_disjoint (cfg : Cfg) (n : Nat) (ranges : List (Rat × Rat))
    (hr : ∀ r ∈ ranges, r.1 ≤ r.2) :
    (gridModel ratNum cfg n ranges).Pairwise fun a b =>
      ∃ i, ∃ (ha : i < a.length) (hb : i < b.length), a[i].2 ≤ b[i].1 ∨ b[i].2 ≤ a[i].1 := by
  exact tile_disjoint_dims cfg (gridDims ratNum cfg n ranges)
    (List.forall_mem_map.mpr fun r hrm => ⟨r.1, r.2, n, hr r hrm, rfl⟩)

example : ∃ cell ∈ gridModel ratNum {} 3 [(0, 1), (2, 5)],
    Forall₂ (fun c xi => c.1 ≤ xi ∧ xi ≤ c.2) cell [1 / 2, 9 / 2] :=
  tile_cover {} rfl 3 (by decide) _ _
    (.cons (by decide +kernel) (.cons (by decide +kernel) .nil))

example : gridModel ratNum {} 2 [(0, 1), (2, 4)] =
    [[(0, 1 / 2), (2, 3)], [(0, 1 / 2), (3, 4)], [(1 / 2, 1), (2, 3)], [(1 / 2, 1), (3, 4)]] := by
  decide +kernel

/-! ## all other parameters keep their priors -/

/-- a place whose prior is not a grid parameter keeps its prior in every cell's model -/
theorem others_keep_priors {P} (gridIds : List Nat) (places : List (P × Nat)) (p : P) (id : Nat)
    (hm : (p, id) ∈ places) (hn : id ∉ gridIds) :
    (p, Place.keep id) ∈ placeMap gridIds places :=
  List.mem_map.mpr ⟨(p, id), hm, congrArg (Prod.mk p) (placeOf_not_mem gridIds id hn)⟩

/-- every place of the `i`-th grid parameter (shared places included) gets dimension `i`'s prior -/
theorem grid_places_replaced {P} (gridIds : List Nat) (places : List (P × Nat)) (p : P) (i id : Nat)
    (hnd : gridIds.Nodup) (hi : gridIds[i]? = some id) (hm : (p, id) ∈ places) :
    (p, Place.dim i) ∈ placeMap gridIds places :=
  List.mem_map.mpr ⟨(p, id), hm, congrArg (Prod.mk p) (placeOf_mem gridIds i id hnd hi)⟩

example : placeMap [7, 3] [("a", 7), ("b", 5), ("c", 3), ("d", 7)]
    = [("a", .dim 0), ("b", .keep 5), ("c", .dim 1), ("d", .dim 0)] := by decide +kernel

/-! ## result lists are in job order regardless of completion order -/

/-- **grid search**: whatever the order in which the cells finish, entry `k` of the result list is
the result of job `k` -/
theorem builder_order_independent {R} (total : Nat) (res : Nat → R) (arrivals : List (Nat × R))
    (h : arrivals.Perm ((List.range total).map fun k => (k, res k))) :
    sampleSummaries total arrivals = (List.range total).map fun k => some (res k) := by
  simp only [sampleSummaries]
  apply List.map_congr_left
  intro k hk
  have hp : arrivals.reverse.Perm ((List.range total).map fun k => (k, res k)) :=
    (List.reverse_perm arrivals).trans h
  exact (lookup_eq_some_iff_mem _ k (res k)
    ((hp.map (·.1)).nodup_iff.mpr (by simp only [List.map_map, Function.comp_def, List.map_id', List.nodup_range]))).mpr
    (hp.mem_iff.mpr (List.mem_map.mpr ⟨k, hk, rfl⟩))

example : sampleSummaries 3 [(2, "c"), (0, "a"), (1, "b")] = [some "a", some "b", some "c"] := by
  decide +kernel

/-- interrupted search: entry `k` is job `k`'s result if it has arrived … -/
theorem builder_partial {R} (total : Nat) (arrivals : List (Nat × R))
    (hnd : (arrivals.map (·.1)).Nodup) (k : Nat) (hk : k < total) :
    (sampleSummaries total arrivals)[k]? = some (arrivals.lookup k) := by
  rw [sampleSummaries_getElem? total arrivals k hk, lookup_reverse_of_nodup arrivals k hnd]

/-- … and the placeholder if it has not -/
theorem builder_placeholder {R} (total : Nat) (arrivals : List (Nat × R)) (k : Nat)
    (hk : k < total) (hn : k ∉ arrivals.map (·.1)) :
    (sampleSummaries total arrivals)[k]? = some none := by
  rw [sampleSummaries_getElem? total arrivals k hk, lookup_reverse_none arrivals k hn]

/-- a job number that arrives twice reports its latest arrival -/
theorem builder_last_write_wins {R} (total : Nat) (pre post : List (Nat × R)) (k : Nat) (v : R)
    (hk : k < total) (hn : k ∉ post.map (·.1)) :
    (sampleSummaries total (pre ++ (k, v) :: post))[k]? = some (some v) := by
  rw [sampleSummaries_getElem? total _ k hk, List.reverse_append, List.reverse_cons, List.append_assoc,
    List.lookup_append, lookup_reverse_none post k hn]
  simp

example : sampleSummaries 3 [(2, "c"), (0, "a"), (2, "c'")] = [some "a", none, some "c'"] := by
  decide +kernel

/-- **sensitivity mapping**: whatever the order in which jobs finish, the collected results are in
job-number order -/
theorem sens_order_independent {R} (total : Nat) (res : Nat → R) (arrivals : List (Nat × R))
    (h : arrivals.Perm ((List.range total).map fun k => (k, res k))) :
    collectSorted arrivals = (List.range total).map fun k => (k, res k) := by
  have hp := (collectSorted_perm arrivals).trans h
  refine List.Perm.eq_of_pairwise (le := fun a b => numLe a b = true) ?_
    (collectSorted_sorted arrivals)
    (List.pairwise_map.mpr (List.pairwise_lt_range.imp fun h => decide_eq_true (Nat.le_of_lt h))) hp
  intro a b ha hb hab hba
  obtain ⟨i, _, rfl⟩ := List.mem_map.mp (hp.mem_iff.mp ha)
  obtain ⟨j, _, rfl⟩ := List.mem_map.mp hb
  have e : i = j := Nat.le_antisymm (of_decide_eq_true hab) (of_decide_eq_true hba)
  rw [e]

example : collectSorted [(2, 20), (0, 0), (1, 10)] = [(0, 0), (1, 10), (2, 20)] :=
  sens_order_independent 3 (fun k => k * 10) [(2, 20), (0, 0), (1, 10)] (by decide +kernel)

/-! ## the reported shape

`GridSearchResult` derives its shape from the *number* of unit lists it is given,
`d * (int(round(N ** (1 / d))),)`; `sideRound` is that integer for every `N` (what the code does when a
result is built from a list that is not a full grid), compared with the real class for all `N` below a cap
and `d ≤ 6` on every run. -/

/-- `iroot t d` is the `d`-th root of `t` rounded down -/
theorem iroot_spec (t d : Nat) (hd : 0 < d) : iroot t d ^ d ≤ t ∧ t < (iroot t d + 1) ^ d :=
  Grid.iroot_spec t d hd

/-- the exact integer root recovers the side length from the number of cells -/
theorem iroot_pow (n d : Nat) (hd : 0 < d) : iroot (n ^ d) d = n :=
  Grid.iroot_pow n d hd

/-- on a full grid the rounded root is the number of steps -/
theorem side_round_pow (n d : Nat) (hd : 0 < d) : sideRound (n ^ d) d = n := by
  rw [sideRound, ← Nat.mul_pow, Grid.iroot_pow (2 * n) d hd, Nat.mul_add_div Nat.zero_lt_two]
  rfl

/-- for every number of results the reported side is the integer nearest to the real `d`-th root:
`(2s-1)^d ≤ 2^d·N < (2s+1)^d` -/
theorem side_round_nearest (total d : Nat) (hd : 0 < d) :
    (2 * sideRound total d - 1) ^ d ≤ 2 ^ d * total ∧ 2 ^ d * total < (2 * sideRound total d + 1) ^ d := by
  -- with `r = ⌊2·total^(1/d)⌋` and `s = (r + 1) / 2`: `2s - 1 ≤ r` and `r + 1 ≤ 2s + 1`
  obtain ⟨h1, h2⟩ := Grid.iroot_spec (2 ^ d * total) d hd
  exact ⟨Nat.le_trans (Nat.pow_le_pow_left (Nat.sub_le_of_le_add (Nat.mul_div_le _ 2)) d) h1,
    Nat.lt_of_lt_of_le h2 (Nat.pow_le_pow_left
      (Nat.le_of_lt_succ (Nat.lt_mul_div_succ _ Nat.zero_lt_two)) d)⟩

/-- **"the result reports shape (n,…,n)"** -/
theorem shape_exact (N : Num V) (cfg : Cfg) (h1 : cfg.integerSteps = true)
    (h2 : cfg.shapeExact = true) (n : Nat) (ranges : List (V × V)) (hd : ranges ≠ []) :
    shapeOf cfg (gridModel N cfg n ranges).length ranges.length
      = List.replicate ranges.length n := by
  rw [grid_fits_n_pow_d N cfg h1, shapeOf, sideOf, if_pos h2,
    side_round_pow n _ (List.length_pos_iff.mpr hd)]

/-- the reported shape accounts for every fitted cell -/
theorem shape_prod (N : Num V) (cfg : Cfg) (h1 : cfg.integerSteps = true)
    (h2 : cfg.shapeExact = true) (n : Nat) (ranges : List (V × V)) (hd : ranges ≠ []) :
    prod (shapeOf cfg (gridModel N cfg n ranges).length ranges.length)
      = (gridModel N cfg n ranges).length := by
  rw [shape_exact N cfg h1 h2 n ranges hd, prod_replicate, grid_fits_n_pow_d N cfg h1]

example : shapeOf {} (gridModel ratNum {} 5 [(0, 1), (0, 1), (2, 5)]).length 3 = [5, 5, 5] :=
  shape_exact ratNum {} rfl rfl 5 [(0, 1), (0, 1), (2, 5)] (by simp)

/-- the reported shape accounts for every result (and `native` can reshape the per-cell lists) exactly
when the number of results is a perfect `d`-th power: a result built from any other number of cells - an
interrupted or hand-made list - has a shape whose product is not the number of its entries -/
theorem shape_accounts_iff (cfg : Cfg) (h : cfg.shapeExact = true) (total d : Nat) (hd : 0 < d) :
    nativeOk cfg total d = true ↔ ∃ n, n ^ d = total := by
  simp only [nativeOk, prod_replicate, beq_iff_eq, sideOf, h, if_true]
  constructor
  · intro e; exact ⟨_, e⟩
  · rintro ⟨n, rfl⟩; rw [side_round_pow n d hd]

/-- so after a full search the reshaped (`native`) arrays exist, in every dimension -/
theorem native_ok_after_full_search (N : Num V) (cfg : Cfg) (h1 : cfg.integerSteps = true)
    (h2 : cfg.shapeExact = true) (n : Nat) (ranges : List (V × V)) (hd : ranges ≠ []) :
    nativeOk cfg (gridModel N cfg n ranges).length ranges.length = true := by
  rw [grid_fits_n_pow_d N cfg h1]
  exact (shape_accounts_iff cfg h2 _ _ (List.length_pos_iff.mpr hd)).mpr ⟨n, rfl⟩

example : sideRound 8 2 = 3 ∧ sideRound 6 2 = 2 ∧ sideRound 80 4 = 3 ∧ sideRound 81 4 = 3 ∧
    nativeOk {} 8 2 = false ∧ nativeOk {} 81 4 = true ∧ nativeOk {} 7776 5 = true := by decide +kernel

/-! ## the reported limits -/

/-- **limits consistent with the cells fitted** (any arithmetic, bit for bit): the limits of the
`k`-th fitted cell are `lo + u·w` and `lo + (u + step)·w` of the `k`-th reported lower unit list -/
theorem reported_lower_is_fitted (N : Num V) (dims : List (Dim V)) :
    gridCells N dims = (unitLists N false dims).map fun us =>
      List.zipWith (fun d u => (N.add d.lo (N.mul u (N.sub d.hi d.lo)),
        N.add d.lo (N.mul (N.add u d.step) (N.sub d.hi d.lo)))) dims us := by
  rw [map_unitLists]
  rfl

/-- in exact arithmetic the reported upper unit limit is lower + step (the clamp at 1 is a no-op,
whatever the flags) -/
theorem reported_upper_exact (cfg cfg' : Cfg) (lo hi : Rat) (n k : Nat) (hk : k < n) :
    upperUnit ratNum cfg' n (unitValue ratNum false (mkDim ratNum cfg lo hi n) k)
      = unitValue ratNum false (mkDim ratNum cfg lo hi n) k + (mkDim ratNum cfg lo hi n).step := by
  have h : unitPt n k + 1 / (n : Rat) ≤ 1 := unitPt_succ n k ▸ unitPt_le_one n (k + 1) hk
  unfold upperUnit
  cases cfg'.upperClamp
  · rfl
  · exact if_pos (decide_eq_true h)

/-- hence the reported physical limits of a cell are exactly the limits of the prior it was fitted with -/
theorem reported_limits_are_fitted (cfg cfg' : Cfg) (lo hi : Rat) (n k : Nat) (hk : k < n) :
    (physical ratNum (mkDim ratNum cfg lo hi n)
        (unitValue ratNum false (mkDim ratNum cfg lo hi n) k),
     physical ratNum (mkDim ratNum cfg lo hi n)
        (upperUnit ratNum cfg' n (unitValue ratNum false (mkDim ratNum cfg lo hi n) k)))
      = gridCellDim ratNum (mkDim ratNum cfg lo hi n) k := by
  rw [reported_upper_exact cfg cfg' lo hi n k hk]
  rfl

example : upperUnit ratNum {} 4 (unitValue ratNum false (mkDim ratNum {} 2 5 4) 3) = 1 := by
  decide +kernel

/-- partial (known finding `C16-nonuniform-grid-prior-limits`): under the guard "the grid prior is
uniform" the physical limits the result reports are those of the prior the cell was fitted with -/
theorem reported_limits_partial (cfg cfg' : Cfg) (f : Rat → Rat) (lo hi : Rat) (n k : Nat) (hk : k < n) :
    (reportedPhysical ratNum true f (mkDim ratNum cfg lo hi n)
        (unitValue ratNum false (mkDim ratNum cfg lo hi n) k),
     reportedPhysical ratNum true f (mkDim ratNum cfg lo hi n)
        (upperUnit ratNum cfg' n (unitValue ratNum false (mkDim ratNum cfg lo hi n) k)))
      = gridCellDim ratNum (mkDim ratNum cfg lo hi n) k := by
  simp only [reportedPhysical, if_true]
  exact reported_limits_are_fitted cfg cfg' lo hi n k hk

/-- refuted without the guard: a non-uniform prior's own unit map (here `u ↦ u²` on `[0,1]`, a
monotone bijection like the log-uniform map) reports the first of two cells as `[0, 1/4]` while the
cell fitted is `[0, 1/2]` -/
theorem reported_limits_refuted_for_nonuniform_prior :
    reportedPhysical ratNum false (fun u => u * u) (mkDim ratNum {} 0 1 2)
        (upperUnit ratNum {} 2 (unitValue ratNum false (mkDim ratNum {} 0 1 2) 0))
      ≠ (gridCellDim ratNum (mkDim ratNum {} 0 1 2) 0).2 := by
  decide +kernel

/-! ## sensitivity mapping obeys the same rules -/

/-- with `limit_scale = 1` the perturbation cell of one dimension is the grid-search cell … -/
theorem sens_cell_is_grid_cell (cfg : Cfg) (lo hi : Rat) (n k : Nat) (hk : k < n) :
    ((sensCellDim ratNum 1 (mkDim ratNum cfg lo hi n) k).lower,
     (sensCellDim ratNum 1 (mkDim ratNum cfg lo hi n) k).upper)
      = gridCellDim ratNum (mkDim ratNum cfg lo hi n) k :=
  have h := sens_lower_upper cfg lo hi n k hk
  Prod.ext h.1 (h.2.trans (gridCellDim_snd cfg lo hi n k).symm)

/-- … so the sensitivity cells, with per-dimension step counts, are exactly the cells that
`tile_cover_dims` / `tile_disjoint_dims` speak about, in the same (row-major) order -/
theorem sens_cells_are_grid_cells (cfg : Cfg) (h : cfg.integerSteps = true)
    (dims : List ((Rat × Rat) × Nat)) :
    (sensCells ratNum 1 (sensDims ratNum cfg dims)).map (fun c => c.map fun s => (s.lower, s.upper))
      = gridCells ratNum (sensDims ratNum cfg dims) := by
  simp only [sensCells, gridCells, List.map_map]
  apply List.map_congr_left
  intro idx hidx
  refine cellAt_congr _ _ _ _ idx ?_ ((Grid.mem_lattice _ _).mp hidx)
  intro d hdm k hk
  obtain ⟨r, _, rfl⟩ := List.mem_map.mp hdm
  exact sens_cell_is_grid_cell cfg _ _ _ k (Nat.lt_of_lt_of_eq hk (countOf_of_integerSteps cfg h _))

/-- sensitivity mapping: the perturbation cells cover the box -/
theorem sens_tile_cover (cfg : Cfg) (h : cfg.integerSteps = true) (dims : List ((Rat × Rat) × Nat))
    (hn : ∀ r ∈ dims, 0 < r.2) (x : List Rat)
    (hx : Forall₂ (fun r xi => r.1.1 ≤ xi ∧ xi ≤ r.1.2) dims x) :
    ∃ cell ∈ (sensCells ratNum 1 (sensDims ratNum cfg dims)).map
        (fun c => c.map fun s => (s.lower, s.upper)),
      Forall₂ (fun c xi => c.1 ≤ xi ∧ xi ≤ c.2) cell x := by
  rw [sens_cells_are_grid_cells cfg h]
  exact tile_cover_dims cfg h _ (List.forall_mem_map.mpr fun r hr => ⟨_, _, _, hn r hr, rfl⟩) x
    ((forall₂_map_left _ dims x).mpr hx)

/-- sensitivity mapping: two different perturbation cells have disjoint interiors -/
theorem sens_tile_disjoint (cfg : Cfg) (h : cfg.integerSteps = true)
    (dims : List ((Rat × Rat) × Nat)) (hr : ∀ r ∈ dims, r.1.1 ≤ r.1.2) :
    ((sensCells ratNum 1 (sensDims ratNum cfg dims)).map
        (fun c => c.map fun s => (s.lower, s.upper))).Pairwise fun a b =>
      ∃ i, ∃ (ha : i < a.length) (hb : i < b.length), a[i].2 ≤ b[i].1 ∨ b[i].2 ≤ a[i].1 := by
  rw [sens_cells_are_grid_cells cfg h]
  exact tile_disjoint_dims cfg _ (List.forall_mem_map.mpr fun r hrm => ⟨_, _, _, hr r hrm, rfl⟩)

/-- the perturbed value is the midpoint of its cell -/
theorem sens_centre_is_midpoint (cfg : Cfg) (lo hi : Rat) (n k : Nat) (hk : k < n) :
    (sensCellDim ratNum 1 (mkDim ratNum cfg lo hi n) k).centre
      = ((sensCellDim ratNum 1 (mkDim ratNum cfg lo hi n) k).lower +
         (sensCellDim ratNum 1 (mkDim ratNum cfg lo hi n) k).upper) / 2 := by
  obtain ⟨h1, h2⟩ := sens_lower_upper cfg lo hi n k hk
  rw [h1, h2, gridPt, gridPt, unitPt_succ]
  exact half_step_mid lo (hi - lo) (unitPt n k) (1 / (n : Rat))

example : (sensCells ratNum 1 (sensDims ratNum {} [((0, 1), 2), ((2, 5), 3)])).map
      (fun c => c.map fun s => (s.lower, s.centre, s.upper))
    = [[(0, 1 / 4, 1 / 2), (2, 5 / 2, 3)], [(0, 1 / 4, 1 / 2), (3, 7 / 2, 4)],
       [(0, 1 / 4, 1 / 2), (4, 9 / 2, 5)], [(1 / 2, 3 / 4, 1), (2, 5 / 2, 3)],
       [(1 / 2, 3 / 4, 1), (3, 7 / 2, 4)], [(1 / 2, 3 / 4, 1), (4, 9 / 2, 5)]] := by
  decide +kernel

/-- the column labels are in the order of the values (id order) -/
theorem headers_by_id (cfg : Cfg) (h : cfg.labelsById = true) (a b : List String) :
    headers cfg a b = a :=
  if_pos h

/-! ## behaviour of the pinned commit (finding flags off): partial theorems and refutation witnesses -/

/-- `int(1 / (1 / 93)) = 92`: `make_lists` drops a lattice point -/
theorem steps_refuted_when_flag_off : countOf { integerSteps := false } 93 = 92 := by
  decide +kernel

/-- a 1-d grid search with 93 steps fits 92 cells, not 93 -/
theorem grid_count_refuted_when_flag_off :
    (gridModel floatNum { integerSteps := false } 93 [((0 : Float), (1 : Float))]).length = 92 := by
  rw [grid_count_general, steps_refuted_when_flag_off]; rfl

/-- partial (flag off): under the decidable guard `int(1/(1/n)) = n` the dimension has `n` points … -/
theorem steps_partial (n : Nat) (hg : stepsF n = n) : countOf { integerSteps := false } n = n :=
  (if_neg Bool.false_ne_true).trans hg

/-- … and the search fits `n^d` cells -/
theorem grid_fits_partial (N : Num V) (cfg : Cfg) (n : Nat) (hg : stepsF n = n)
    (ranges : List (V × V)) : (gridModel N cfg n ranges).length = n ^ ranges.length := by
  rw [grid_count_general]
  cases hc : cfg.integerSteps <;> simp [countOf, hc, hg]

example : stepsF 10 = 10 := by decide +kernel

/-- unclamped, the last reported upper unit limit of a 182-step search exceeds 1 in double arithmetic -/
theorem upper_overflow_refuted_when_unclamped :
    floatNum.le (upperUnit floatNum { upperClamp := false } 182
      (unitValue floatNum false (mkDim floatNum {} 0 1 182) 181)) (Float.ofNat 1) = false := by
  decide +kernel

/-- `int(4.999999999999999) = 4`: the truncated root of 125 cells in 3 dimensions is 4, not 5
(`0x4013FFFFFFFFFFFF` is libm's `pow(125, 1/3)`, see the `#guard` below) -/
theorem side_refuted_when_flag_off : sideTrunc (Float.ofBits 0x4013FFFFFFFFFFFF) = 4 := by
  decide +kernel

/-- partial (flag off): under the decidable guard that the truncated double root is `n`, the shape
is `(n,…,n)` -/
theorem shape_partial (cfg : Cfg) (total d n : Nat) (hg : sideF total d = n)
    (hc : cfg.shapeExact = false) : shapeOf cfg total d = List.replicate d n := by
  simp [shapeOf, sideOf, hc, hg]

/-- known finding `C16-prior-unit-end-outside-limits` (root cause: `Prior.value_for`, property C02): in
double arithmetic the uniform map of the unit end point 1 can land *above* the prior's upper limit
(`-534.9102058632687 + 1·(-236.83708131075005 − -534.9102058632687) = -236.83708131075002`), where the
code's limit check raises instead of reporting the last cell's upper limit -/
theorem reported_upper_refuted_in_doubles :
    floatNum.le (physical floatNum
        (mkDim floatNum {} (Float.ofBits 0xc080b7481a02faef) (Float.ofBits 0xc06d9ac95ebeb875) 2)
        (Float.ofNat 1)) (Float.ofBits 0xc06d9ac95ebeb875) = false := by
  decide +kernel

/-- partial: under the decidable guard that the unit end point maps inside the limits, the reported
upper limit of the last cell (unit limit clamped to 1) is a value the limit check accepts -/
theorem reported_upper_partial (cfg : Cfg) (hc : cfg.upperClamp = true) (d : Dim Float) (side : Nat)
    (v : Float)
    (hover : floatNum.le (floatNum.add v (floatNum.div (floatNum.ofNat 1) (floatNum.ofNat side)))
      (floatNum.ofNat 1) = false)
    (hg : floatNum.le (physical floatNum d (Float.ofNat 1)) d.hi = true) :
    floatNum.le (reportedPhysical floatNum true id d (upperUnit floatNum cfg side v)) d.hi = true := by
  simp only [reportedPhysical, if_true, upperUnit, hc, hover]
  exact hg

/-- labels in attribute order do not match values in id order -/
theorem headers_refuted_when_flag_off :
    headers { labelsById := false } ["y", "x"] ["x", "y"] ≠ ["y", "x"] := by decide +kernel

/-! ## the physical limits at the level of doubles (`AFModel/GridPhys.lean`)

`uniValue S lo hi q` is `UniformPrior(lo, hi).value_for(u)` as the code computes it from the quantile
round trip `q = ndtr(ndtri(u))` (the only libm-dependent step, a parameter): raw value, limit gate,
rounding `S.round`, clamp. The first group holds for every number type and every rounding function - in
particular for `Float` with CPython's `round`, the instance the driver runs and the harness compares bit
for bit with `physical_*_lists` and the sensitivity cells. -/

section PhysAny
open AF.Prior
variable {K : Type} [Add K] [Sub K] [Mul K] [Div K] [LE K] [LT K] [DecidableLE K] [DecidableLT K]
  [OfNat K 0] [OfNat K 1] [OfNat K 10]
set_option linter.unusedSectionVars false

/-- a reported physical limit raises `PriorLimitException` exactly when the raw value `q·(hi-lo)+lo` is
outside the prior's limits (known finding `C16-prior-unit-end-outside-limits` is the case `q = 1`) -/
theorem reported_physical_raises_iff (S : Special K) (lo hi q : K) :
    uniValue S lo hi q = .limit ↔ ¬ (lo ≤ uniRaw lo hi q ∧ uniRaw lo hi q ≤ hi) :=
  ⟨fun e h => (nomatch (uniValue_ok S lo hi q h).symm.trans e), uniValue_limit S lo hi q⟩

/-- otherwise it is the raw value rounded and clamped into the limits -/
theorem reported_physical_value (S : Special K) (lo hi q : K)
    (h : lo ≤ uniRaw lo hi q ∧ uniRaw lo hi q ≤ hi) :
    uniValue S lo hi q = .ok (clamp lo hi (S.round (decimalPlaces (hi - lo)) (uniRaw lo hi q))) :=
  uniValue_ok S lo hi q h

/-- the reported value is property C02's `value_for` of the grid prior (so C02's theorems about
`valueFor` - quantile, monotone, inverse - apply to the limits a grid search reports) -/
theorem reported_physical_is_value_for (S : Special K) (lo hi u : K) :
    uniValue S lo hi (S.phi (S.phiInv u)) = valueFor S {} false (uniParams lo hi) u :=
  rfl

/-- row-major: the `k`-th row of `physical_lower_limits_lists` (`centre = false`) holds `value_for` of the
unit values of the cell with the mixed-radix digits of `k` -/
theorem reported_physical_row_major (N : Num K) (S : Special K) (trip : K → K) (centre : Bool)
    (dims : List (Dim K)) (k : Nat) (hk : k < prod (counts dims)) :
    (physLists S trip dims (unitLists N centre dims))[k]?
      = some (cellAt (fun d i => uniValue S d.lo d.hi (trip (unitValue N centre d i))) dims
          (digits (counts dims) k)) := by
  rw [physLists_unitLists]
  exact map_lattice_row_major dims _ k hk

/-- one reported row per cell -/
theorem reported_physical_count (N : Num K) (S : Special K) (trip : K → K) (centre : Bool)
    (dims : List (Dim K)) :
    (physLists S trip dims (unitLists N centre dims)).length = prod (counts dims) := by
  rw [physLists_unitLists]
  exact map_lattice_length dims _

/-- sensitivity mapping at the level of doubles: one cell per lattice point, the `k`-th job's perturbation
and prior limits are those of the multi-index `digits k` (row-major) -/
theorem sens_physical_row_major (N : Num K) (S : Special K) (trip : K → K) (scale : K)
    (dims : List (Dim K)) (k : Nat) (hk : k < prod (counts dims)) :
    (sensPhysCells N S trip scale dims).length = prod (counts dims) ∧
    (sensPhysCells N S trip scale dims)[k]?
      = some (cellAt (sensPhysDim N S trip scale) dims (digits (counts dims) k)) :=
  ⟨map_lattice_length dims _, map_lattice_row_major dims _ k hk⟩

/-- a sensitivity cell has no prior (and `Sensitivity.run` raises) exactly when `value_for` of one of its
two unit limits raises -/
theorem sens_physical_raises_iff (N : Num K) (S : Special K) (trip : K → K) (scale : K) (d : Dim K)
    (k : Nat) :
    (sensPhysDim N S trip scale d k).limits = none ↔
      (uniValue S d.lo d.hi (trip (sensCellDim N scale d k).unitLower) = .limit ∨
       uniValue S d.lo d.hi (trip (sensCellDim N scale d k).unitUpper) = .limit) := by
  simp only [sensPhysDim]
  cases h1 : uniValue S d.lo d.hi (trip (sensCellDim N scale d k).unitLower) <;>
    cases h2 : uniValue S d.lo d.hi (trip (sensCellDim N scale d k).unitUpper) <;> simp

/-- `Sensitivity._labels` / `_physical_values` / the rows of `results.csv`: the `k`-th job is labelled with the
names of the perturb priors in id order, each with `value_for` of the centre of the cell with the row-major
digits of `k`; one label per job -/
theorem sens_labels_row_major (N : Num K) (S : Special K) (trip : K → K) (scale : K) (cfg : Grid.Cfg)
    (h : cfg.labelsById = true) (namesById namesByAttr : List String) (dims : List (Dim K)) (k : Nat)
    (hk : k < prod (counts dims)) :
    (sensLabels N S trip scale cfg namesById namesByAttr dims).length = prod (counts dims) ∧
    (sensLabels N S trip scale cfg namesById namesByAttr dims)[k]?
      = some (namesById.zip
          ((cellAt (sensPhysDim N S trip scale) dims (digits (counts dims) k)).map (·.centre))) := by
  obtain ⟨hl, hr⟩ := sens_physical_row_major N S trip scale dims k hk
  exact ⟨(List.length_map ..).trans hl, by
    rw [sensLabels, List.getElem?_map, hr, Option.map_some, sensLabelParts, headers, if_pos h]⟩

end PhysAny

section PhysField
open AF.Prior Lean Grind
variable {K : Type} [Field K] [LE K] [LT K] [Std.IsLinearOrder K] [Std.LawfulOrderLT K] [OrderedRing K]
  [DecidableLE K] [DecidableLT K]
set_option linter.unusedSectionVars false

/-- whatever the rounding function and the round trip: a physical limit the result reports lies inside
the original prior's limits -/
theorem reported_physical_in_limits (S : Special K) (lo hi q v : K) (hLU : lo ≤ hi)
    (h : uniValue S lo hi q = .ok v) : lo ≤ v ∧ v ≤ hi :=
  uniValue_mem S lo hi q v hLU h

/-- with a monotone rounding function (CPython's `round` is) reported limits are ordered like the round
trips of their unit values: the reported edges of successive cells never cross -/
theorem reported_physical_monotone (S : Special K)
    (hm : ∀ n x y, x ≤ y → S.round n x ≤ S.round n y) (lo hi q q' v v' : K) (hLU : lo ≤ hi)
    (hq : q ≤ q') (h : uniValue S lo hi q = .ok v) (h' : uniValue S lo hi q' = .ok v') : v ≤ v' := by
  rw [(uniValue_eq_ok S lo hi q v h).2, (uniValue_eq_ok S lo hi q' v' h').2]
  exact clamp_mono _ _ _ _ (hm _ _ _ (uniRaw_mono lo hi q q' hLU hq))

/-- refinement: in exact arithmetic (no rounding, exact round trip) the reported value of a unit value in
`[0, 1]` never raises and is `lo + u·(hi - lo)`, the map the tiling theorems are about -/
theorem reported_physical_exact (S : Special K) (hr : ∀ n x, S.round n x = x) (lo hi u : K)
    (hLU : lo ≤ hi) (h0 : 0 ≤ u) (h1 : u ≤ 1) :
    uniValue S lo hi u = .ok (lo + u * (hi - lo)) := by
  have hmem := uniRaw_mem lo hi u hLU h0 h1
  rw [uniValue_ok S lo hi u hmem, hr, clamp_id _ _ _ hmem, uniRaw, AddCommMonoid.add_comm]

/-- sensitivity mapping: `Prior.with_limits` does not move limits that came out of `value_for`: the
cell's prior has exactly the two `value_for` values as limits, inside the original prior's limits -/
theorem sens_limits_are_value_for (N : Num K) (S : Special K) (trip : K → K) (scale : K) (d : Dim K)
    (k : Nat) (a b : K) (hLU : d.lo ≤ d.hi)
    (h : (sensPhysDim N S trip scale d k).limits = some (a, b)) :
    uniValue S d.lo d.hi (trip (sensCellDim N scale d k).unitLower) = .ok a ∧
    uniValue S d.lo d.hi (trip (sensCellDim N scale d k).unitUpper) = .ok b ∧
    d.lo ≤ a ∧ b ≤ d.hi := by
  simp only [sensPhysDim] at h
  split at h
  · rename_i va vb h1 h2
    have ma := uniValue_mem S _ _ _ va hLU h1
    have mb := uniValue_mem S _ _ _ vb hLU h2
    simp only [Option.some.injEq, Prod.mk.injEq] at h
    rw [pyMax_of_le va d.lo ma.1, pyMin_of_le vb d.hi mb.2] at h
    obtain ⟨rfl, rfl⟩ := h
    exact ⟨h1, h2, ma.1, mb.2⟩
  · cases h

end PhysField

/-- the float-level definition, run in exact arithmetic, reports exactly the limits of the cell fitted
(`reported_limits_are_fitted` stated through `value_for` instead of the idealised `physical`) -/
theorem reported_physical_limits_are_fitted (cfg cfg' : Cfg) (lo hi : Rat) (hLU : lo ≤ hi) (n k : Nat)
    (hk : k < n) :
    (uniValue AF.Prior.ratSpecial lo hi (unitValue ratNum false (mkDim ratNum cfg lo hi n) k),
     uniValue AF.Prior.ratSpecial lo hi
       (upperUnit ratNum cfg' n (unitValue ratNum false (mkDim ratNum cfg lo hi n) k)))
      = (.ok (gridCellDim ratNum (mkDim ratNum cfg lo hi n) k).1,
         .ok (gridCellDim ratNum (mkDim ratNum cfg lo hi n) k).2) := by
  -- `value_for` sends the lattice values of the dimension to the points of its chain
  have key : ∀ m, m ≤ n → uniValue AF.Prior.ratSpecial lo hi (unitPt n m) = .ok (gridPt lo hi n m) :=
    fun m hm => reported_physical_exact AF.Prior.ratSpecial (fun _ _ => rfl) lo hi (unitPt n m) hLU
      (unitPt_nonneg n m) (unitPt_le_one n m hm)
  rw [reported_upper_exact cfg cfg' lo hi n k hk, gridCellDim_fst, gridCellDim_snd]
  exact congr (congrArg Prod.mk (key k (Nat.le_of_lt hk))) ((unitPt_succ n k).symm ▸ key (k + 1) hk)

example : uniValue AF.Prior.ratSpecial 2 5 (1 / 3) = .ok 3 ∧
    physLists AF.Prior.ratSpecial id (gridDims ratNum {} 2 [(0, 1), (2, 4)])
        (unitLists ratNum false (gridDims ratNum {} 2 [(0, 1), (2, 4)]))
      = [[.ok 0, .ok 2], [.ok 0, .ok 3], [.ok (1 / 2), .ok 2], [.ok (1 / 2), .ok 3]] := by
  decide +kernel

example : (sensPhysCells ratNum AF.Prior.ratSpecial id 1 (sensDims ratNum {} [((2, 5), 3)])).map
      (fun c => c.map fun s => (s.centre, s.limits))
    = [[(.ok (5 / 2), some (2, 3))], [(.ok (7 / 2), some (3, 4))], [(.ok (9 / 2), some (4, 5))]] := by
  decide +kernel

example : sensLabels ratNum AF.Prior.ratSpecial id 1 {} ["b", "a"] ["a", "b"]
      (sensDims ratNum {} [((0, 1), 1), ((2, 5), 3)])
    = [[("b", .ok (1 / 2)), ("a", .ok (5 / 2))], [("b", .ok (1 / 2)), ("a", .ok (7 / 2))],
       [("b", .ok (1 / 2)), ("a", .ok (9 / 2))]] := by
  decide +kernel

/-- known finding `C16-prior-unit-end-outside-limits` at the level of doubles: for this prior the raw
value of the unit end point 1 is above the upper limit, `value_for(1.0)` raises -/
theorem reported_physical_refuted_in_doubles :
    raises (uniValue AF.Prior.floatSpecial (Float.ofBits 0xc080b7481a02faef)
      (Float.ofBits 0xc06d9ac95ebeb875) (Float.ofNat 1)) = true := by
  decide +kernel

/-! ## the composition of a cell (`AFModel/GridComp.lean`): all other parameters keep their priors

`cellComp t gridIds fresh` is `model.mapper_from_partial_prior_arguments` of one cell on the composition
model of properties C01/C08 (`Node`, `walk`, `pathPriors`, `count`, `instW`): the driver runs it on the real
model's tree and the harness compares places, ids in parameter order, count and instances of sampled cells. -/

section CellComp
open AF
variable {W : Type}

/-- the cell's model has exactly the places of the original model -/
theorem cell_places (t : Node W) (gridIds fresh : List Nat) :
    (walk (cellComp t gridIds fresh)).map (·.1) = (walk t).map (·.1) := by
  rw [walk_cellComp, List.map_map]
  rfl

/-- **"all other parameters keep their priors"**: a place that holds a prior which is not a grid prior
holds the same prior (same id) in every cell's model, also in the id-ordered `path_priors_tuples` -/
theorem others_keep_priors_comp (t : Node W) (gridIds fresh : List Nat) (p : Path) (id : Nat)
    (hm : (p, id) ∈ walk t) (hn : id ∉ gridIds) :
    (p, id) ∈ walk (cellComp t gridIds fresh) ∧ (p, id) ∈ pathPriors (cellComp t gridIds fresh) := by
  have h := mem_walk_cellComp t gridIds fresh p id hm
  rwa [cellSigma_not_mem gridIds fresh id hn] at h

/-- every place of the `i`-th grid prior (tied places included) holds the cell's new prior of dimension `i` -/
theorem grid_places_replaced_comp (t : Node W) (gridIds fresh : List Nat) (p : Path) (i id new : Nat)
    (hnd : gridIds.Nodup) (hi : gridIds[i]? = some id) (hf : fresh[i]? = some new)
    (hm : (p, id) ∈ walk t) :
    (p, new) ∈ walk (cellComp t gridIds fresh) ∧ (p, new) ∈ pathPriors (cellComp t gridIds fresh) := by
  have h := mem_walk_cellComp t gridIds fresh p id hm
  rwa [cellSigma_mem gridIds fresh i id new hnd hi hf] at h

/-- nothing else changes: a place of the cell's model holds either the prior it held or a new prior -/
theorem cell_places_only (t : Node W) (gridIds fresh : List Nat) (hl : fresh.length = gridIds.length)
    (p : Path) (j : Nat) (hm : (p, j) ∈ walk (cellComp t gridIds fresh)) :
    ((p, j) ∈ walk t ∧ j ∉ gridIds) ∨ (j ∈ fresh ∧ ∃ id ∈ gridIds, (p, id) ∈ walk t) := by
  rw [walk_cellComp] at hm
  obtain ⟨⟨q, id⟩, hq, he⟩ := List.mem_map.mp hm
  simp only [Prod.mk.injEq] at he
  obtain ⟨rfl, rfl⟩ := he
  by_cases hg : id ∈ gridIds
  · exact .inr ⟨cellSigma_mem_fresh gridIds fresh id hl hg, id, hg, hq⟩
  · rw [cellSigma_not_mem gridIds fresh id hg]
    exact .inl ⟨hq, hg⟩

/-- the number of free parameters of a cell is that of the original model, when the new priors have ids of
their own (pairwise distinct, none an id of the model - checked on the real ids on every run) -/
theorem cell_count (t : Node W) (gridIds fresh : List Nat) (hl : fresh.length = gridIds.length)
    (hf : fresh.Nodup) (hd : ∀ x ∈ fresh, x ∉ (walk t).map (·.2)) :
    count (cellComp t gridIds fresh) = count t :=
  count_renameIds _ t (cellSigma_injOn gridIds fresh _ hl hf hd)

/-- the instance a cell's model builds is the instance the original model builds when every grid parameter
takes the value drawn for the cell's prior and every other parameter its own value -/
theorem cell_instance [Inhabited W] (ops : Ops W) (ρ : Nat → Inst W) (t : Node W)
    (gridIds fresh : List Nat) :
    instW ops ρ (cellComp t gridIds fresh) = instW ops (fun id => ρ (cellSigma gridIds fresh id)) t :=
  instW_rename ops ρ _ t

/-- the ids `make_arguments` draws for the jobs of one search are pairwise distinct within a job and
between jobs -/
theorem fresh_ids_distinct (base d : Nat) (k k' i i' : Nat) (hi : i < d) (hi' : i' < d)
    (h : (freshIds base d k)[i]? = (freshIds base d k')[i']?) : k = k' ∧ i = i' := by
  simp only [freshIds, List.getElem?_map, List.getElem?_range hi, List.getElem?_range hi',
    Option.map_some, Option.some.injEq, Nat.add_assoc, Nat.add_left_cancel_iff] at h
  -- `k * d + i` with `i < d` determines its quotient by `d`
  have hk : k = k' := by
    have a := congrArg (· / d) h
    simpa only [Nat.mul_comm _ d, Nat.mul_add_div (Nat.zero_lt_of_lt hi), Nat.div_eq_of_lt hi,
      Nat.div_eq_of_lt hi', Nat.add_zero] using a
  subst hk
  exact ⟨rfl, Nat.add_left_cancel h⟩

end CellComp

example : walk (cellComp (V := Nat)
      (.coll [("g", .model "P2" ["a", "b"] [("a", .prior 5), ("b", .prior 6)]),
              ("h", .model "P3" ["a", "b", "c"] [("a", .prior 7), ("b", .prior 5), ("c", .const 1)])])
      [7, 5] [8, 9])
    = [(["g", "a"], 9), (["g", "b"], 6), (["h", "a"], 8), (["h", "b"], 9)] ∧
    freshIds 8 2 3 = [14, 15] := by decide +kernel

example : count (cellComp (V := Nat)
      (.coll [("g", .model "P2" ["a", "b"] [("a", .prior 5), ("b", .prior 6)]),
              ("h", .model "P3" ["a", "b", "c"] [("a", .prior 7), ("b", .prior 5), ("c", .const 1)])])
      [7, 5] [8, 9]) = 3 :=
  (cell_count _ [7, 5] [8, 9] rfl (by decide +kernel) (by decide +kernel)).trans (by decide +kernel)

/-! tests (evaluated by the compiler at build time, not theorems): libm's `pow` does not reduce in
the kernel, so the link between `sideF` and the bit pattern in `side_refuted_when_flag_off` is checked here -/
#guard sideF 125 3 == 4
#guard (Float.pow (Float.ofNat 125) (1.0 / Float.ofNat 3)).toBits == 0x4013FFFFFFFFFFFF
#guard sideF 100 2 == 10

end AF.C16
