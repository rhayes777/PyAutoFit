import AFProofs.Lemmas.Migrate
import AFProofs.Lemmas.MigrateRows
import AFModel.Generated.C19
import AFModel.MigrateFeat

/-!
# C19 — opening an older database migrates it exactly once to the current schema

About `AF.Migrate.session` / `runHistory` / `interrupted` (`AFModel/Migrate.lean`), which the driver executes
with the step table `Generated.table` and the mapped schema `Generated.orm` that `harness/tables_c19.py`
regenerates from the repository before every build.

Part 1 holds for every step list with distinct step and revision ids (`Table.WF`), every schema, every content
of the `revision` table and any number of opens by the repaired code (`Cfg.fixed`). Part 2 is about the
regenerated table and rests on two kernel evaluations over the historic database shapes: a complete open at the
pinned revision reaches the current schema, and an open cut anywhere and started again ends where the complete
one does. Part 3: the pinned commit (`Cfg.pinned`, first 8 steps) violates the property. Parts 4 and 5: row
contents, and the features of the library on a migrated database.
-/

namespace AF.C19
open AF.Migrate

/-! ## Part 1 — every step list -/

/-- `Migrator.get_steps` compares prefix hashes, then filters by step id. -/
theorem get_steps_suffix (tbl : Table) (hw : tbl.WF) (k : Nat) (hk : k < tbl.revIds.length) :
    getSteps tbl (some tbl.revIds[k]) = tbl.steps.drop (k + 1) :=
  getSteps_stamped tbl hw k hk

/-- `none`: no `revision` table, no row in it, or `NULL`. -/
theorem get_steps_all_when_unstamped (tbl : Table) :
    getSteps tbl none = tbl.steps ∧ ∀ rid, rid ∉ tbl.revIds → getSteps tbl (some rid) = tbl.steps :=
  ⟨rfl, fun rid h => getSteps_unknown tbl rid h⟩

/-- **Exactly the missing steps, each once and in order**; their effect and the stamp of the current revision
are durable whether or not the caller commits. -/
theorem migrate_from_prefix (tbl : Table) (orm : Schema) (hw : tbl.WF) (k : Nat)
    (hk : k + 1 < tbl.revIds.length) (s : Store) (hs : s.rev = .row (some (tbl.revIds[k]'(by omega))))
    (c : Bool) :
    (session Cfg.fixed tbl orm (some s) c).2.map (·.1) = stmtsOf (tbl.steps.drop (k + 1)) ∧
    (session Cfg.fixed tbl orm (some s) c).1.schema = schemaAfter s.schema (tbl.steps.drop (k + 1)) ∧
    (session Cfg.fixed tbl orm (some s) c).1.rev = .row (some (latestId tbl)) := by
  have hlen := hw.len
  have hne : tbl.steps ≠ [] := List.ne_nil_of_length_pos (by omega)
  have hg : getSteps tbl (ridOf s.rev) = tbl.steps.drop (k + 1) := by
    rw [hs]; exact getSteps_stamped tbl hw k (by omega)
  have hrest : tbl.steps.drop (k + 1) ≠ [] := fun h => by have := List.drop_eq_nil_iff.mp h; omega
  rw [session_fixed tbl orm hne s c, hg]
  exact ⟨runStmts_attempted _ _, rfl, by simp [hrest]⟩

/-- Without a usable stamp every statement is attempted; those whose effect is already there fail, and
`Migrator.migrate` swallows the error. -/
theorem migrate_unstamped (tbl : Table) (orm : Schema) (hne : tbl.steps ≠ []) (s : Store)
    (hs : ridOf s.rev = none ∨ ∃ rid, ridOf s.rev = some rid ∧ rid ∉ tbl.revIds) (c : Bool) :
    (session Cfg.fixed tbl orm (some s) c).2.map (·.1) = stmtsOf tbl.steps ∧
    (session Cfg.fixed tbl orm (some s) c).1.schema = schemaAfter s.schema tbl.steps ∧
    (session Cfg.fixed tbl orm (some s) c).1.rev = .row (some (latestId tbl)) := by
  have hg : getSteps tbl (ridOf s.rev) = tbl.steps := by
    rcases hs with h | ⟨rid, h, hnot⟩
    · rw [h]; rfl
    · rw [h]; exact getSteps_unknown tbl rid hnot
  rw [session_fixed tbl orm hne s c, hg]
  exact ⟨runStmts_attempted _ _, rfl, by simp [hne]⟩

/-- **A database stamped with the current revision is not touched.** -/
theorem open_current_noop (tbl : Table) (orm : Schema) (hw : tbl.WF) (hne : tbl.steps ≠ []) (s : Store)
    (hs : s.rev = .row (some (latestId tbl))) (c : Bool) :
    session Cfg.fixed tbl orm (some s) c = (s, []) := by
  obtain ⟨sch, rev⟩ := s
  subst hs
  simp [session_fixed tbl orm hne, ridOf, (getSteps_eq_nil_iff tbl hw hne _).mpr rfl, stmtsOf, runStmts]

theorem every_open_ends_current (tbl : Table) (orm : Schema) (hw : tbl.WF) (hne : tbl.steps ≠ [])
    (file : Option Store) (c : Bool) :
    (session Cfg.fixed tbl orm file c).1.rev = .row (some (latestId tbl)) := by
  cases file with
  | none => rw [session_fixed_fresh]
  | some s =>
    rw [session_fixed tbl orm hne s c]
    by_cases h : (getSteps tbl (ridOf s.rev)).isEmpty
    · simp only [h, if_true]
      exact ridOf_eq_some.mp ((getSteps_eq_nil_iff tbl hw hne _).mp (List.isEmpty_iff.mp h))
    · simp [h]

/-- **Fixed point after the first open**: the second open attempts nothing and changes nothing. -/
theorem open_fixed_point (tbl : Table) (orm : Schema) (hw : tbl.WF) (hne : tbl.steps ≠ [])
    (file : Option Store) (c₁ c₂ : Bool) :
    session Cfg.fixed tbl orm (some (session Cfg.fixed tbl orm file c₁).1) c₂
      = ((session Cfg.fixed tbl orm file c₁).1, []) :=
  open_current_noop tbl orm hw hne _ (every_open_ends_current tbl orm hw hne file c₁) c₂

theorem reopen_fixed_point (tbl : Table) (orm : Schema) (hw : tbl.WF) (hne : tbl.steps ≠ [])
    (file : Option Store) (c : Bool) (n : Nat) :
    reopen Cfg.fixed tbl orm (session Cfg.fixed tbl orm file c).1 n = (session Cfg.fixed tbl orm file c).1 := by
  induction n with
  | zero => rfl
  | succ n ih =>
    simp only [reopen]
    rw [open_fixed_point tbl orm hw hne file c false]
    exact ih

theorem history_fixed_point (tbl : Table) (orm : Schema) (hw : tbl.WF) (hne : tbl.steps ≠ [])
    (file : Option Store) (c : Bool) (h : List Bool) :
    ∀ x ∈ (runHistory Cfg.fixed tbl orm file (c :: h)).tail, x = ((session Cfg.fixed tbl orm file c).1, []) := by
  simp only [runHistory, List.tail_cons]
  have key : ∀ (s : Store), s.rev = .row (some (latestId tbl)) →
      ∀ x ∈ runHistory Cfg.fixed tbl orm (some s) h, x = (s, []) := by
    induction h with
    | nil => exact fun _ _ _ hx => nomatch hx
    | cons c' rest ih =>
      intro s hs x hx
      simp only [runHistory, open_current_noop tbl orm hw hne s hs c', List.mem_cons] at hx
      exact hx.elim id (ih s hs x)
  exact key _ (every_open_ends_current tbl orm hw hne file c)

/-- **A new database is created at the current revision and stamped.** -/
theorem fresh_db_stamped (tbl : Table) (orm : Schema) (c : Bool) :
    session Cfg.fixed tbl orm none c = ({ schema := orm, rev := .row (some (latestId tbl)) }, []) :=
  session_fixed_fresh tbl orm c

/-- **Existing data stays readable**: no statement shape removes a table, and a column goes only by `RENAME`
or `DROP`. -/
theorem readable_after (s : Schema) (l : List Stmt) (t c : String)
    (hc : hasCol s t c = true) (hr : ∀ st ∈ l, st.removes t c = false) :
    hasCol (runStmts s l).1 t c = true :=
  hasCol_runStmts s l t c hc hr

/-- An open interrupted after `j` statements (the process is killed) has not stamped, so the next open
finishes the job. -/
theorem interrupted_open_recovers (tbl : Table) (orm : Schema) (hw : tbl.WF) (hne : tbl.steps ≠ [])
    (s : Store) (j : Nat) (c : Bool) :
    (session Cfg.fixed tbl orm (some (interrupted tbl s j).1) c).1.rev = .row (some (latestId tbl)) :=
  every_open_ends_current tbl orm hw hne _ c

/-- an interruption cannot make a half-migrated database look current -/
theorem interrupted_keeps_stamp (tbl : Table) (s : Store) (j : Nat) :
    ridOf (interrupted tbl s j).1.rev = ridOf s.rev := by
  obtain ⟨sch, rev⟩ := s
  cases rev <;>
    simp [interrupted, readRevision, initRevisionTable, Db.work, Db.ddl, Db.dml, Db.close, ridOf]

/-! ## Part 2 — the step list and the mapping of the repository, as regenerated for this build -/

open Generated

theorem table_wf : table.WF := by decide +kernel

theorem steps_nonempty : table.steps ≠ [] := nofun

/-- the step list only grew since the pinned history: every revision id a database in the field may carry is
still the id of the same prefix -/
theorem history_is_prefix : revIds.take historyRevIds.length = historyRevIds := rfl

/-- with `readable_after`: whatever mapped column a database holds before an open it holds afterwards -/
theorem orm_columns_never_removed :
    ∀ tc ∈ orm.flatMap (fun (t, cs) => cs.map fun c => (t, c)),
      ∀ st ∈ stmtsOf steps, st.removes tc.1 tc.2 = false := by decide +kernel

/-- every historic shape `(name, k, schema)`, stamped with its pinned revision `k`: the missing steps bring it
to the current schema -/
theorem stamped_variants_reach_current :
    ∀ v ∈ variants, isCurrent (schemaAfter v.2.2 (steps.drop v.2.1)) orm steps = true := by decide +kernel

/-- **steps cover the mapping**, from the oldest schema (the first shape, at revision 0) -/
theorem steps_cover_orm : isCurrent (schemaAfter base steps) orm steps = true :=
  stamped_variants_reach_current ("A0", 0, base) (List.Mem.head _)

/-- every historic shape, with or without usable stamp, first open interrupted after `j` statements (`j = 0`:
not interrupted), then opened again: the same schema as one complete open at its pinned revision -/
theorem interrupted_variants_same_outcome (v : String × Nat × Schema) (hv : v ∈ variants) (todo : List Step)
    (htodo : todo ∈ [steps, steps.drop v.2.1]) (j : Nat) :
    schemaAfter (runStmts v.2.2 ((stmtsOf todo).take j)).1 todo = schemaAfter v.2.2 (steps.drop v.2.1) := by
  have key : ∀ v ∈ variants, ∀ todo ∈ [steps, steps.drop v.2.1], ∀ j ∈ List.range ((stmtsOf todo).length + 1),
      schemaAfter (runStmts v.2.2 ((stmtsOf todo).take j)).1 todo = schemaAfter v.2.2 (steps.drop v.2.1) := by
    -- a fact about this step list, not idempotence of statements: once `ADD latent_variables_for_id; RENAME … TO
    -- latent_samples_for_id` have run, attempting them again adds the old column back (the junk column of part 3);
    -- the second run ends in the same schema only because the last step drops that column
    decide +kernel
  -- a cut beyond the last statement is a cut at the last statement
  rcases Nat.le_total j (stmtsOf todo).length with h | h
  · exact key v hv todo htodo j (List.mem_range.mpr (Nat.lt_succ_of_le h))
  · rw [List.take_of_length_le h, ← List.take_length (l := stmtsOf todo)]
    exact key v hv todo htodo _ (List.mem_range.mpr (Nat.lt_succ_self _))

/-- without usable stamp: attempting every step gives the schema the missing ones alone give (no junk column) -/
theorem unstamped_variants_same_outcome :
    ∀ v ∈ variants, schemaAfter v.2.2 steps = schemaAfter v.2.2 (steps.drop v.2.1) :=
  fun v hv => interrupted_variants_same_outcome v hv steps List.mem_cons_self 0

theorem interrupted_stamped_variants_reach_current :
    ∀ v ∈ variants, ∀ j ∈ List.range (stmtsOf steps).length.succ,
      isCurrent (schemaAfter (runStmts v.2.2 ((stmtsOf (steps.drop v.2.1)).take j)).1 (steps.drop v.2.1))
        orm steps = true := by
  intro v hv j _
  rw [interrupted_variants_same_outcome v hv _ (List.mem_cons_of_mem _ List.mem_cons_self) j]
  exact stamped_variants_reach_current v hv

theorem interrupted_unstamped_variants_reach_current :
    ∀ v ∈ variants, ∀ j ∈ List.range (stmtsOf steps).length.succ,
      isCurrent (schemaAfter (runStmts v.2.2 ((stmtsOf steps).take j)).1 steps) orm steps = true := by
  intro v hv j _
  rw [interrupted_variants_same_outcome v hv _ List.mem_cons_self j]
  exact stamped_variants_reach_current v hv

/-! ## Part 3 — the pinned commit does not have the property -/

def pinnedTable : Table := ⟨steps.take 8, revIds.take 8⟩

/-- **never stamped**: an empty `revision` table is what the pinned code itself leaves behind; from there the
database stays unstamped whatever the caller does, and every open attempts every statement again. -/
theorem never_stamped_refuted (tbl : Table) (orm : Schema) (hne : tbl.steps ≠ []) (s : Store)
    (hs : s.rev = .empty) (c : Bool) :
    (session Cfg.pinned tbl orm (some s) c).1.rev = .empty ∧
    (session Cfg.pinned tbl orm (some s) c).2.map (·.1) = stmtsOf tbl.steps := by
  obtain ⟨sch, rev⟩ := s
  simp only at hs
  subst hs
  have h1 := getSteps_none_isEmpty_false tbl hne
  cases c <;>
    simp [session, openDatabase, migrate, readRevision, writeRevision, setRow, Db.work, Db.ddl, Db.dml,
      Db.commit, Db.close, Cfg.pinned, h1, runStmts_attempted] <;> rfl

/-- unless the caller commits, the pinned code leaves nothing durable but an empty `revision` table -/
theorem pinned_open_leaves_nothing (tbl : Table) (orm : Schema) (hne : tbl.steps ≠ []) (sch : Schema) :
    (session Cfg.pinned tbl orm (some { schema := sch, rev := .noTable }) false).1
      = { schema := sch, rev := .empty } := by
  have h1 := getSteps_none_isEmpty_false tbl hne
  simp [session, openDatabase, migrate, readRevision, initRevisionTable, writeRevision, setRow, Db.work,
    Db.ddl, Db.dml, Db.close, Cfg.pinned, h1]

/-- **junk column**: shape `F` is what the pinned code's own `create_all` makes (never stamped) -/
theorem junk_column_refuted :
    ∃ v ∈ variants, v.1 = "F" ∧
      hasCol (session Cfg.pinned pinnedTable orm (some { schema := v.2.2, rev := .empty }) false).1.schema
        "object" "latent_variables_for_id" = true := by decide +kernel

/-- **steps do not cover the mapping** at the pinned commit -/
theorem steps_cover_orm_refuted_at_pinned :
    covers (schemaAfter base pinnedTable.steps) orm = false ∧
    hasCol (schemaAfter base pinnedTable.steps) "named_instance" "instance_id" = false := by decide +kernel

theorem fresh_db_unstamped_at_pinned (tbl : Table) (orm : Schema) (c : Bool) :
    (session Cfg.pinned tbl orm none c).1.rev = .noTable := by
  cases c <;> simp [session, openDatabase, Db.commit, Db.close, Cfg.pinned]

/-! ## non-vacuity -/

/-- `migrate_from_prefix`: shape `A3` stamped with revision 3 -/
example : ∃ v ∈ variants, v.1 = "A3" ∧ 2 + 1 < table.revIds.length ∧
    (session Cfg.fixed table orm (some { schema := v.2.2, rev := .row (some (table.revIds[2]'(by decide))) }) false).2.length = 7 := by
  decide +kernel

/-- the fixed point is reached from a file that does not exist, too -/
example : (runHistory Cfg.fixed table orm none [false, true, false]).map (·.2) = [[], [], []] := by decide +kernel

/-- `never_stamped_refuted`: the oldest schema with an empty `revision` table -/
example : (session Cfg.pinned pinnedTable orm (some { schema := base, rev := .empty }) true).1.rev = .empty := by
  decide +kernel

/-! ## Part 4 — row contents (`AFModel/MigrateRows.lean`: `sessionR` / `runHistoryR` / `interruptedR`), for
every step list, schema, rows, `revision` table and number of opens -/

/-- **the row-level model refines the name-level one**, so every theorem of parts 1–3 holds for the model with
rows -/
theorem rows_model_refines (cfg : Cfg) (tbl : Table) (orm : Schema) (file : Option RStore) (h : List Bool) :
    (runHistoryR cfg tbl orm file h).map (fun x => (x.1.store, x.2))
      = runHistory cfg tbl orm (file.map RStore.store) h := by
  symm
  induction h generalizing file with
  | nil => rfl
  | cons c rest ih =>
    simp only [runHistory, runHistoryR, List.map_cons, sessionR_proj]
    rw [← ih (some (sessionR cfg tbl orm file c).1)]
    rfl

theorem interrupted_rows_model_refines (tbl : Table) (s : RStore) (j : Nat) :
    ((interruptedR tbl s j).1.store, (interruptedR tbl s j).2) = interrupted tbl s.store j := by
  have hdb : ({ committed := s.store, pending := none } : Db) = ({ committed := s, pending := none } : RDb).proj := rfl
  obtain ⟨h1, h2⟩ := readRevisionR_proj { committed := s, pending := none }
  simp only [interrupted, interruptedR, hdb]
  rw [h1, h2]
  obtain ⟨hd, hl⟩ := runDdl_proj (readRevisionR { committed := s, pending := none }).1
    ((stmtsOf (getSteps tbl (readRevisionR { committed := s, pending := none }).2)).take j)
  rw [hd, hl]
  rfl

/-- **closed form of the rows**: the old rows — same number, same order — each rewritten by the statements
that succeeded (`ADD`: `NULL` appended, `RENAME`: key renamed, `DROP`: entry removed) -/
theorem rows_closed_form (d : Data) (l : List Stmt) (t : String) :
    rowsOf (runStmtsR d l).1 t = (rowsOf d t).map (logOnRow t (runStmtsR d l).2) :=
  rowsOf_runStmtsR d l t

theorem open_current_noop_rows (tbl : Table) (orm : Schema) (hw : tbl.WF) (hne : tbl.steps ≠ []) (s : RStore)
    (hs : s.rev = .row (some (latestId tbl))) (c : Bool) :
    sessionR Cfg.fixed tbl orm (some s) c = (s, []) := by
  obtain ⟨d, rev⟩ := s
  subst hs
  simp [sessionR_fixed tbl orm hne, ridOf, (getSteps_eq_nil_iff tbl hw hne _).mpr rfl, stmtsOf, runStmtsR]

/-- **the revision table holds exactly one row, with the current revision**, after every open (`Rev.row` is
"exactly one row") -/
theorem revision_single_row (tbl : Table) (orm : Schema) (hw : tbl.WF) (hne : tbl.steps ≠ [])
    (file : Option RStore) (c : Bool) :
    (sessionR Cfg.fixed tbl orm file c).1.rev = .row (some (latestId tbl)) := by
  have h := sessionR_proj Cfg.fixed tbl orm file c
  have h2 := every_open_ends_current tbl orm hw hne (file.map RStore.store) c
  rw [h] at h2
  exact h2

/-- **fixed point at row level**: every use after the first attempts nothing and leaves schema, stamp and
every row as the first left them -/
theorem rows_fixed_point (tbl : Table) (orm : Schema) (hw : tbl.WF) (hne : tbl.steps ≠ [])
    (file : Option RStore) (c : Bool) (h : List Bool) :
    ∀ x ∈ (runHistoryR Cfg.fixed tbl orm file (c :: h)).tail, x = ((sessionR Cfg.fixed tbl orm file c).1, []) := by
  simp only [runHistoryR, List.tail_cons]
  have key : ∀ (s : RStore), s.rev = .row (some (latestId tbl)) →
      ∀ x ∈ runHistoryR Cfg.fixed tbl orm (some s) h, x = (s, []) := by
    induction h with
    | nil => exact fun _ _ _ hx => nomatch hx
    | cons c' rest ih =>
      intro s hs x hx
      simp only [runHistoryR, open_current_noop_rows tbl orm hw hne s hs c', List.mem_cons] at hx
      exact hx.elim id (ih s hs x)
  exact key _ (revision_single_row tbl orm hw hne file c)

theorem rows_after_any_history (tbl : Table) (orm : Schema) (hw : tbl.WF) (hne : tbl.steps ≠ [])
    (file : Option RStore) (c : Bool) (h : List Bool) :
    ∀ x ∈ runHistoryR Cfg.fixed tbl orm file (c :: h), x.1 = (sessionR Cfg.fixed tbl orm file c).1 := by
  intro x hx
  rcases List.mem_cons.mp hx with rfl | hx'
  · rfl
  · rw [rows_fixed_point tbl orm hw hne file c h x hx']

theorem reopen_rows_fixed_point (tbl : Table) (orm : Schema) (hw : tbl.WF) (hne : tbl.steps ≠ [])
    (file : Option RStore) (c : Bool) (n : Nat) :
    reopenR Cfg.fixed tbl orm (sessionR Cfg.fixed tbl orm file c).1 n = (sessionR Cfg.fixed tbl orm file c).1 := by
  induction n with
  | zero => rfl
  | succ n ih =>
    simp only [reopenR]
    rw [open_current_noop_rows tbl orm hw hne _ (revision_single_row tbl orm hw hne file c) false]
    exact ih

theorem session_rows_preserved (tbl : Table) (orm : Schema) (hne : tbl.steps ≠ []) (s : RStore)
    (hd : wfData s.data = true) (t : String) (c0 : Bool) :
    ∃ f : Row → Row, rowsOf (sessionR Cfg.fixed tbl orm (some s) c0).1.data t = (rowsOf s.data t).map f ∧
      ∀ c, (∀ st ∈ stmtsOf tbl.steps, st.removes t c = false) →
        ∀ r ∈ rowsOf s.data t, ∀ v, cellOf r c = some v → cellOf (f r) c = some v := by
  rw [sessionR_fixed tbl orm hne s c0]
  exact ⟨logOnRow t _, rowsOf_runStmtsR _ _ t, fun c hrem =>
    cell_preserved s.data _ t c hd fun st hst => hrem st (stmtsOf_subset (getSteps_subset tbl _) hst)⟩

/-- **existing fits are still readable — row level**: at every point of a history of opens every table holds
exactly its old rows, in order, and every old value of a column that no step renames away or drops -/
theorem rows_preserved (tbl : Table) (orm : Schema) (hw : tbl.WF) (hne : tbl.steps ≠ []) (s : RStore)
    (hd : wfData s.data = true) (t : String) (c0 : Bool) (h : List Bool) :
    ∀ x ∈ runHistoryR Cfg.fixed tbl orm (some s) (c0 :: h),
      ∃ f : Row → Row, rowsOf x.1.data t = (rowsOf s.data t).map f ∧
        ∀ c, (∀ st ∈ stmtsOf tbl.steps, st.removes t c = false) →
          ∀ r ∈ rowsOf s.data t, ∀ v, cellOf r c = some v → cellOf (f r) c = some v := by
  intro x hx
  rw [rows_after_any_history tbl orm hw hne (some s) c0 h x hx]
  exact session_rows_preserved tbl orm hne s hd t c0

theorem rows_stay_wellformed (tbl : Table) (orm : Schema) (hw : tbl.WF) (hne : tbl.steps ≠ [])
    (file : Option RStore) (hd : ∀ s, file = some s → wfData s.data = true) (c0 : Bool) (h : List Bool) :
    ∀ x ∈ runHistoryR Cfg.fixed tbl orm file (c0 :: h), wfData x.1.data = true := by
  intro x hx
  rw [rows_after_any_history tbl orm hw hne file c0 h x hx]
  cases file with
  | none => rw [sessionR_fixed_fresh]; exact wf_emptyData orm
  | some s =>
    rw [sessionR_fixed tbl orm hne s c0]
    exact wf_runStmtsR _ _ (hd s rfl)

/-- **new columns read `NULL` on old rows**, unless they are the target of a rename -/
theorem new_columns_null (tbl : Table) (orm : Schema) (hw : tbl.WF) (hne : tbl.steps ≠ []) (s : RStore)
    (hd : wfData s.data = true) (t c : String) (hnew : hasCol (schemaOf s.data) t c = false)
    (hren : (t, c) ∉ renameTargets tbl.steps) (c0 : Bool) (h : List Bool) :
    ∀ x ∈ runHistoryR Cfg.fixed tbl orm (some s) (c0 :: h),
      ∀ T, findT x.1.data t = some T → c ∈ T.cols → ∀ r ∈ T.rows, cellOf r c = some none := by
  intro x hx
  rw [rows_after_any_history tbl orm hw hne (some s) c0 h x hx, sessionR_fixed tbl orm hne s c0]
  apply new_column_null s.data _ t c hd hnew
  intro st hst a e
  apply hren
  simp only [renameTargets, List.mem_filterMap]
  exact ⟨st, stmtsOf_subset (getSteps_subset tbl _) hst, by rw [e]⟩

theorem renamed_column_carries_values (d d' : Data) (t a b : String) (hd : wfData d = true)
    (h : applyStmtR d (.renameColumn t a b) = some d') :
    columnOf d' t b = columnOf d t a := by
  rw [columnOf, columnOf, rowsOf_applyStmtR d d' _ t h, List.map_map]
  apply List.map_congr_left
  intro r hr
  simp only [Function.comp, Stmt.onRow, if_true]
  exact cellOf_rowRename_target a b r (rename_target_fresh hd h hr)

/-- **values follow renames**: the value an old row holds at column `c` is found afterwards under the name
`logTrack` computes from the statements that succeeded (`rows_preserved` is the case of a column no step
renames away or drops) -/
theorem values_follow_renames (tbl : Table) (orm : Schema) (hw : tbl.WF) (hne : tbl.steps ≠ []) (s : RStore)
    (hd : wfData s.data = true) (t : String) (c0 : Bool) (h : List Bool) :
    ∀ x ∈ runHistoryR Cfg.fixed tbl orm (some s) (c0 :: h),
      ∃ f : Row → Row, rowsOf x.1.data t = (rowsOf s.data t).map f ∧
        ∀ c c', logTrack t (sessionR Cfg.fixed tbl orm (some s) c0).2 c = some c' →
          ∀ r ∈ rowsOf s.data t, ∀ v, cellOf r c = some v → cellOf (f r) c' = some v := by
  intro x hx
  rw [rows_after_any_history tbl orm hw hne (some s) c0 h x hx, sessionR_fixed tbl orm hne s c0]
  exact ⟨logOnRow t _, rowsOf_runStmtsR _ _ t, fun c c' ht r hr v hv =>
    cell_tracked s.data _ t c c' hd r hr v hv ht⟩

/-- the statements attempted (and which of them succeed) do not depend on the rows -/
theorem log_independent_of_rows (cfg : Cfg) (tbl : Table) (orm : Schema) (s : RStore) (c : Bool) :
    (sessionR cfg tbl orm (some s) c).2 = (session cfg tbl orm (some s.store) c).2 := by
  have h := sessionR_proj cfg tbl orm (some s) c
  simp only [Option.map_some] at h
  rw [h]

theorem fresh_db_no_rows (tbl : Table) (orm : Schema) (c : Bool) :
    sessionR Cfg.fixed tbl orm none c = ({ data := emptyData orm, rev := .row (some (latestId tbl)) }, []) :=
  sessionR_fixed_fresh tbl orm c

/-- **interrupted open, row level**: the conclusion of `rows_preserved`, and rows still fitting their columns,
so that `rows_preserved` applies to the opens that follow -/
theorem interrupted_rows_preserved (tbl : Table) (s : RStore) (hd : wfData s.data = true) (t : String) (j : Nat) :
    wfData (interruptedR tbl s j).1.data = true ∧
    ∃ f : Row → Row, rowsOf (interruptedR tbl s j).1.data t = (rowsOf s.data t).map f ∧
      ∀ c, (∀ st ∈ stmtsOf tbl.steps, st.removes t c = false) →
        ∀ r ∈ rowsOf s.data t, ∀ v, cellOf r c = some v → cellOf (f r) c = some v := by
  obtain ⟨l, hl, hdata, -⟩ := interruptedR_durable tbl s j
  rw [hdata]
  exact ⟨wf_runStmtsR _ l hd, logOnRow t _, rowsOf_runStmtsR _ l t, fun c hrem =>
    cell_preserved s.data l t c hd fun st hst => hrem st (hl st hst)⟩

theorem interrupted_values_tracked (tbl : Table) (s : RStore) (hd : wfData s.data = true) (t : String) (j : Nat) :
    ∃ f : Row → Row, rowsOf (interruptedR tbl s j).1.data t = (rowsOf s.data t).map f ∧
      ∀ c c', logTrack t (interruptedDurableLog tbl s j) c = some c' →
        ∀ r ∈ rowsOf s.data t, ∀ v, cellOf r c = some v → cellOf (f r) c' = some v := by
  obtain ⟨l, -, hdata, hlog⟩ := interruptedR_durable tbl s j
  rw [hdata, hlog]
  exact ⟨logOnRow t _, rowsOf_runStmtsR _ l t, fun c c' ht r hr v hv => cell_tracked s.data l t c c' hd r hr v hv ht⟩

theorem interrupted_then_opens_rows_preserved (tbl : Table) (orm : Schema) (hw : tbl.WF) (hne : tbl.steps ≠ [])
    (s : RStore) (hd : wfData s.data = true) (t : String) (j : Nat) (c0 : Bool) (h : List Bool) :
    ∀ x ∈ runHistoryR Cfg.fixed tbl orm (some (interruptedR tbl s j).1) (c0 :: h),
      ∃ f : Row → Row, rowsOf x.1.data t = (rowsOf s.data t).map f ∧
        ∀ c, (∀ st ∈ stmtsOf tbl.steps, st.removes t c = false) →
          ∀ r ∈ rowsOf s.data t, ∀ v, cellOf r c = some v → cellOf (f r) c = some v := by
  intro x hx
  obtain ⟨hwf, f1, hf1, hp1⟩ := interrupted_rows_preserved tbl s hd t j
  obtain ⟨f2, hf2, hp2⟩ := rows_preserved tbl orm hw hne _ hwf t c0 h x hx
  refine ⟨f2 ∘ f1, by rw [hf2, hf1, List.map_map], ?_⟩
  intro c hrem r hr v hv
  exact hp2 c hrem (f1 r) (by rw [hf1]; exact List.mem_map_of_mem hr) v (hp1 c hrem r hr v hv)

/-! ### the regenerated step list -/

/-- the `revision`-table states a database of a shape at revision `k` is found in: no table, no row, `NULL`,
an unknown id, the pinned id of its own revision -/
def revStates (k : Nat) : List Rev :=
  [.noTable, .empty, .row none, .row (some "0123456789abcdef0123456789abcdef")] ++
    (if h : 0 < k ∧ k - 1 < revIds.length then [.row (some (revIds[k - 1]'h.2))] else [])

theorem outstanding_of_revState (k : Nat) (rev : Rev) (h : rev ∈ revStates k) :
    getSteps table (ridOf rev) = steps ∨ getSteps table (ridOf rev) = steps.drop k := by
  simp only [revStates, List.mem_append, List.mem_cons, List.not_mem_nil, or_false] at h
  rcases h with (rfl | rfl | rfl | rfl) | h
  · exact .inl rfl
  · exact .inl rfl
  · exact .inl rfl
  · exact .inl (getSteps_unknown table _ (by decide +kernel))
  · split at h
    · rename_i hk
      rw [List.mem_singleton] at h
      subst h
      have := getSteps_stamped table table_wf (k - 1) hk.2
      rw [Nat.sub_add_cancel hk.1] at this
      exact .inr this
    · cases h

theorem variants_open_reaches_current (v : String × Nat × Schema) (hv : v ∈ variants) (rev : Rev)
    (hrev : rev ∈ revStates v.2.1) (c : Bool) :
    isCurrent (session Cfg.fixed table orm (some { schema := v.2.2, rev := rev }) c).1.schema orm steps = true := by
  rw [session_fixed table orm steps_nonempty]
  show isCurrent (schemaAfter v.2.2 (getSteps table (ridOf rev))) orm steps = true
  rcases outstanding_of_revState v.2.1 rev hrev with h | h <;> rw [h]
  · rw [unstamped_variants_same_outcome v hv]
    exact stamped_variants_reach_current v hv
  · exact stamped_variants_reach_current v hv

/-- every other new column reads `NULL` on old rows (`new_columns_null`) -/
theorem rename_targets : renameTargets steps = [("object", "latent_samples_for_id")] := rfl

/-- **every value of every mapped column survives** -/
theorem mapped_values_survive (s : RStore) (hd : wfData s.data = true) (c0 : Bool) (h : List Bool) :
    ∀ tc ∈ orm.flatMap (fun (t, cs) => cs.map fun c => (t, c)),
      ∀ x ∈ runHistoryR Cfg.fixed table orm (some s) (c0 :: h),
        ∃ f : Row → Row, rowsOf x.1.data tc.1 = (rowsOf s.data tc.1).map f ∧
          ∀ r ∈ rowsOf s.data tc.1, ∀ v, cellOf r tc.2 = some v → cellOf (f r) tc.2 = some v := by
  intro tc htc x hx
  obtain ⟨f, hf, hp⟩ := rows_preserved table orm table_wf steps_nonempty s hd tc.1 c0 h x hx
  exact ⟨f, hf, hp tc.2 (orm_columns_never_removed tc htc)⟩

theorem latent_column_tracked :
    ∀ v ∈ variants, ∀ rev ∈ revStates v.2.1, ∀ c : Bool,
      hasCol v.2.2 "object" "latent_variables_for_id" = true →
      hasCol v.2.2 "object" "latent_samples_for_id" = false →
      logTrack "object" (session Cfg.fixed table orm (some { schema := v.2.2, rev := rev }) c).2
        "latent_variables_for_id" = some "latent_samples_for_id" := by
  have key : ∀ v ∈ variants, hasCol v.2.2 "object" "latent_variables_for_id" = true →
      hasCol v.2.2 "object" "latent_samples_for_id" = false →
      ∀ todo ∈ [steps, steps.drop v.2.1], logTrack "object" (runStmts v.2.2 (stmtsOf todo)).2
        "latent_variables_for_id" = some "latent_samples_for_id" := by decide +kernel
  intro v hv rev hrev c hold hnew
  rw [session_fixed table orm steps_nonempty]
  apply key v hv hold hnew
  rcases outstanding_of_revState v.2.1 rev hrev with h | h <;> simp [h]

/-- **latent samples stored under the old column name stay readable** -/
theorem latent_values_survive_rename (s : RStore) (hd : wfData s.data = true)
    (v : String × Nat × Schema) (hv : v ∈ variants) (hs : schemaOf s.data = v.2.2)
    (hrev : s.rev ∈ revStates v.2.1)
    (hold : hasCol v.2.2 "object" "latent_variables_for_id" = true)
    (hnew : hasCol v.2.2 "object" "latent_samples_for_id" = false) (c0 : Bool) (h : List Bool) :
    ∀ x ∈ runHistoryR Cfg.fixed table orm (some s) (c0 :: h),
      ∃ f : Row → Row, rowsOf x.1.data "object" = (rowsOf s.data "object").map f ∧
        ∀ r ∈ rowsOf s.data "object", ∀ w, cellOf r "latent_variables_for_id" = some w →
          cellOf (f r) "latent_samples_for_id" = some w := by
  intro x hx
  obtain ⟨f, hf, hp⟩ := values_follow_renames table orm table_wf steps_nonempty s hd "object" c0 h x hx
  refine ⟨f, hf, hp "latent_variables_for_id" "latent_samples_for_id" ?_⟩
  rw [log_independent_of_rows]
  have := latent_column_tracked v hv s.rev hrev c0 hold hnew
  simpa [RStore.store, hs] using this

/-- `latent_values_survive_rename`: shape `A7` -/
example : ∃ v ∈ variants, v.1 = "A7" ∧ hasCol v.2.2 "object" "latent_variables_for_id" = true ∧
    hasCol v.2.2 "object" "latent_samples_for_id" = false ∧ wfData (sampleData v.2.2) = true ∧
    schemaOf (sampleData v.2.2) = v.2.2 := by decide +kernel

/-- the row theorems read on shape `A7` stamped with revision 7, one row per table holding the column's name in
every column, after `open; close; open; commit; close` -/
example : ∃ v ∈ variants, v.1 = "A7" ∧
    let s : RStore := { data := sampleData v.2.2, rev := .row (some (table.revIds[6]'(by decide))) }
    wfData s.data = true ∧
    ∀ x ∈ runHistoryR Cfg.fixed table orm (some s) [false, true],
      columnOf x.1.data "object" "class_path" = [some (some "class_path")] ∧
      columnOf x.1.data "object" "latent_samples_for_id" = [some (some "latent_variables_for_id")] ∧
      columnOf x.1.data "object" "latent_variables_for_id" = [none] ∧
      columnOf x.1.data "named_instance" "instance_id" = [some none] ∧
      columnOf x.1.data "fit" "name" = [some (some "name")] := by
  decide +kernel

/-- `new_columns_null`: the oldest shape lacks `fit.name` -/
example : hasCol (schemaOf (sampleData base)) "fit" "name" = false ∧ ("fit", "name") ∉ renameTargets steps ∧
    columnOf (sessionR Cfg.fixed table orm (some { data := sampleData base, rev := .noTable }) false).1.data
      "fit" "name" = [some none] := by
  decide +kernel

/-- an interrupted open that had to create the `revision` table loses its statements (rolled back with the
`INSERT` that opened the transaction); otherwise they are durable one by one -/
example :
    columnOf (interruptedR table { data := sampleData base, rev := .noTable } 2).1.data "fit" "name" = [none] ∧
    columnOf (interruptedR table { data := sampleData base, rev := .empty } 2).1.data "fit" "name" = [some none] ∧
    columnOf (interruptedR table { data := sampleData base, rev := .empty } 2).1.data "fit" "id" = [some (some "id")] := by
  decide +kernel

/-! ## Part 5 — "all current features work on it" (`AFModel/MigrateFeat.lean`: `usable`) -/

/-- **a feature that works keeps working** -/
theorem usable_stays (s : Schema) (l : List Stmt) (needs : Needs) (hu : usable s needs = true)
    (hr : ∀ tc ∈ needs, ∀ st ∈ l, st.removes tc.1 tc.2 = false) :
    usable (runStmts s l).1 needs = true := by
  simp only [usable, List.all_eq_true] at hu ⊢
  intro tc htc
  exact hasCol_runStmts s l tc.1 tc.2 (hu tc htc) (hr tc htc)

theorem usable_of_covers (s orm : Schema) (needs : Needs) (hc : covers s orm = true)
    (hn : ∀ tc ∈ needs, tc ∈ columnsOf orm) : usable s needs = true := by
  simp only [usable, List.all_eq_true]
  intro tc htc
  have hm := hn tc htc
  simp only [columnsOf, List.mem_flatMap, List.mem_map] at hm
  obtain ⟨p, hp, c, hcm, hpc⟩ := hm
  simp only [covers, List.all_eq_true] at hc
  have := hc p hp c hcm
  rw [← hpc]
  exact this

/-- whether `ALTER TABLE t ADD c` succeeds or fails with "duplicate column", afterwards the table has the
column -/
theorem add_column_ensures (s : Schema) (t c : String) (ht : (colsOf s t).isSome = true) :
    hasCol (runStmts s [.addColumn t c]).1 t c = true := by
  cases h : colsOf s t with
  | none => simp [h] at ht
  | some cs =>
    by_cases hc : c ∈ cs
    · simp [runStmts, applyStmt, h, hc, hasCol]
    · simp [runStmts, applyStmt, h, hc, hasCol, colsOf_mapTable_same]

/-- likewise `CREATE TABLE t` and "already exists" -/
theorem create_table_ensures (s : Schema) (t : String) (cols : List String) :
    (colsOf (runStmts s [.createTable t cols]).1 t).isSome = true := by
  cases h : colsOf s t with
  | some cs => simp [runStmts, applyStmt, h]
  | none => simp [runStmts, applyStmt, h, colsOf_append, colsOf]

/-- hence `steps_cover_orm` speaks about what the features need -/
theorem features_within_mapping : ∀ f ∈ features, ∀ tc ∈ f.2, tc ∈ columnsOf orm := by decide +kernel

theorem feature_columns_never_removed :
    ∀ f ∈ features, ∀ tc ∈ f.2, ∀ st ∈ stmtsOf steps, st.removes tc.1 tc.2 = false :=
  fun f hf tc htc => orm_columns_never_removed tc (features_within_mapping f hf tc htc)

theorem allUsable_of_current (s : Schema) (h : isCurrent s orm steps = true) : allUsable s features = true := by
  simp only [isCurrent, Bool.and_eq_true] at h
  simp only [allUsable, List.all_eq_true]
  exact fun f hf => usable_of_covers s orm f.2 h.1 (features_within_mapping f hf)

/-- **every feature works after the first open** of every historic database shape in every state of its
`revision` table -/
theorem features_usable_after_open :
    ∀ v ∈ variants, ∀ rev ∈ revStates v.2.1, ∀ c : Bool,
      allUsable (session Cfg.fixed table orm (some { schema := v.2.2, rev := rev }) c).1.schema features = true :=
  fun v hv rev hrev c => allUsable_of_current _ (variants_open_reaches_current v hv rev hrev c)

theorem features_usable_after_any_history (v : String × Nat × Schema) (hv : v ∈ variants) (rev : Rev)
    (hrev : rev ∈ revStates v.2.1) (c : Bool) (h : List Bool) :
    ∀ x ∈ runHistory Cfg.fixed table orm (some { schema := v.2.2, rev := rev }) (c :: h),
      allUsable x.1.schema features = true := by
  intro x hx
  rcases List.mem_cons.mp hx with rfl | hx'
  · exact features_usable_after_open v hv rev hrev c
  · rw [history_fixed_point table orm table_wf steps_nonempty _ c h x hx']
    exact features_usable_after_open v hv rev hrev c

theorem features_usable_on_fresh (c : Bool) :
    allUsable (session Cfg.fixed table orm none c).1.schema features = true := by
  rw [fresh_db_stamped]
  exact allUsable_of_current orm (by decide +kernel)

theorem features_usable_after_interrupted_open :
    ∀ v ∈ variants, ∀ j ∈ List.range (stmtsOf steps).length.succ,
      allUsable (schemaAfter (runStmts v.2.2 ((stmtsOf steps).take j)).1 steps) features = true ∧
      allUsable (schemaAfter (runStmts v.2.2 ((stmtsOf (steps.drop v.2.1)).take j)).1 (steps.drop v.2.1)) features
        = true :=
  fun v hv j hj => ⟨allUsable_of_current _ (interrupted_unstamped_variants_reach_current v hv j hj),
    allUsable_of_current _ (interrupted_stamped_variants_reach_current v hv j hj)⟩

/-- **the migration is needed**: before revision 8 the `Aggregator` cannot even load a fit, because the
polymorphic `object` table, which every feature goes through, lacks `latent_samples_for_id` -/
theorem old_shapes_support_no_feature :
    ∀ v ∈ variants, v.2.1 < 8 → ∀ f ∈ features, usable v.2.2 f.2 = false := by
  have hneed : ∀ f ∈ features, ("object", "latent_samples_for_id") ∈ f.2 := by decide +kernel
  have hlack : ∀ v ∈ variants, v.2.1 < 8 → hasCol v.2.2 "object" "latent_samples_for_id" = false := by
    decide +kernel
  intro v hv hk f hf
  rw [← Bool.not_eq_true]
  intro hu
  have := List.all_eq_true.mp hu _ (hneed f hf)
  rw [hlack v hv hk] at this
  cases this

/-- shapes made by the pinned code at revision 8 lack exactly the named instances -/
example : ∃ v ∈ variants, v.1 = "A8" ∧
    (usableEach v.2.2 features).filter (fun p => !p.2) = [("named_instance", false)] := by decide +kernel

/-- `usable_stays`: JSON storage on the revision-8 shape through the remaining steps -/
example : ∃ v ∈ variants, v.1 = "A8" ∧ ∃ f ∈ features, f.1 = "json" ∧ usable v.2.2 f.2 = true ∧
    usable (runStmts v.2.2 (stmtsOf (steps.drop 8))).1 f.2 = true := by decide +kernel

end AF.C19
