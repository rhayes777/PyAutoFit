import AFProofs.Lemmas.ParEval
import AFProofs.Lemmas.ParEvalLive
import AFProofs.Lemmas.ParEvalFair
import AFProofs.Lemmas.ParLife

/-!
# C14 — parallel evaluation equals serial evaluation

Theorems about the pool state machines of `AFModel/ParEval.lean`, which the driver `AFDriver/C14.lean` executes and
`harness/c14.py` ties to /repo.  They hold for every non-empty pool, every batch (failures included), every
schedule (any finite list of actor choices, i.e. every relative speed of the workers) and every sequence of
batches on one pool.

The ordering / once / no-leftover statements have the form "whenever the caller has left its loop …".  Liveness:
no reachable state is a trap (`map_can_always_finish`, `runjobs_can_always_finish`), and `SneakyPool.map`
terminates under every fair schedule with a computed bound.  That a fair scheduler lets `Process.run_jobs` return
is observed by the harness (round-robin continuation of every generated schedule), not proved.  What the pinned
commit did wrong is stated as the `legacy_…` refutations.
-/

namespace AF.C14
open AF.ParEval

variable {α : Type}

/-! ## `SneakyPool.map` -/

/-- **Results by position.** Whatever the schedule, when `map` has collected its batch it returns what
evaluating the inputs one after another returns: the values in input order up to the first failure, which is
raised. -/
theorem map_equals_serial (ws : List (Worker α)) (js : List (Res α)) (evs : List Nat)
    (hq : Quiescent ws) (hp : ws ≠ []) (hf : ((initMap ws js).run evs).finished = true) :
    ((initMap ws js).run evs).output = serial js :=
  (map_done ws js evs hq hp hf).1.output

theorem serial_all_ok (vs : List α) : serial (vs.map Res.ok) = ⟨vs, none⟩ := by
  induction vs with
  | nil => rfl
  | cons v t ih => simp [serial, ih]

/-- **An exception is reported**, at the position where it occurred: the values before the first failing
input are returned, then that input's exception is raised (later failures never mask it). -/
theorem serial_first_failure (pre : List α) (t : α) (post : List (Res α)) :
    serial (pre.map Res.ok ++ Res.err t :: post) = ⟨pre, some t⟩ := by
  induction pre with
  | nil => rfl
  | cons v r ih => simp [serial, ih]

theorem map_exception_reported (ws : List (Worker α)) (pre : List α) (t : α) (post : List (Res α))
    (evs : List Nat) (hq : Quiescent ws) (hp : ws ≠ [])
    (hf : ((initMap ws (pre.map Res.ok ++ Res.err t :: post)).run evs).finished = true) :
    ((initMap ws (pre.map Res.ok ++ Res.err t :: post)).run evs).output = ⟨pre, some t⟩ := by
  rw [map_equals_serial ws _ evs hq hp hf, serial_first_failure]

/-- **Nothing is left behind.** When `map` returns (normally or by raising: both happen after the loop) the
pool is in the state the next `map` call assumes, so nothing can be attributed to a later batch. -/
theorem map_no_leftover (ws : List (Worker α)) (js : List (Res α)) (evs : List Nat)
    (hq : Quiescent ws) (hp : ws ≠ []) (hf : ((initMap ws js).run evs).finished = true) :
    Quiescent ((initMap ws js).run evs).ws ∧ leftover ((initMap ws js).run evs).ws = 0 ∧
      ((initMap ws js).run evs).ws.length = ws.length := by
  obtain ⟨hd, hl⟩ := map_done ws js evs hq hp hf
  exact ⟨hd.quiet, leftover_zero_of_quiescent hd.quiet, hl⟩

/-- **Each input is evaluated exactly once** (part 1): when `map` returns, worker `k` has performed exactly
the positions `≡ k (mod P)`, in increasing order. -/
theorem map_worker_log (ws : List (Worker α)) (js : List (Res α)) (evs : List Nat)
    (hq : Quiescent ws) (hp : ws ≠ []) (hf : ((initMap ws js).run evs).finished = true)
    (k : Nat) (w : Worker α) (hk : ((initMap ws js).run evs).ws[k]? = some w) :
    w.performed = (List.range js.length).filter (fun i => i % ws.length == k) := by
  obtain ⟨hd, hl⟩ := map_done ws js evs hq hp hf
  exact hl ▸ hd.perf k w hk

/-- **Each input is evaluated exactly once** (part 2): position `i` occurs exactly once in the log of worker
`i % P` and in no other worker's log. -/
theorem map_each_input_once (ws : List (Worker α)) (js : List (Res α)) (evs : List Nat)
    (hq : Quiescent ws) (hp : ws ≠ []) (hf : ((initMap ws js).run evs).finished = true)
    (i : Nat) (hi : i < js.length) (k : Nat) (w : Worker α)
    (hk : ((initMap ws js).run evs).ws[k]? = some w) :
    w.performed.count i = if k = i % ws.length then 1 else 0 := by
  rw [map_worker_log ws js evs hq hp hf k w hk, (List.nodup_range.sublist List.filter_sublist).count]
  simp [List.mem_filter, hi, eq_comm (a := k)]

/-- the function the driver executes for one `map` call (`schedule` then round-robin) is such a run -/
theorem mapBatch_spec (ws : List (Worker α)) (js : List (Res α)) (sched : List Nat) (fuel : Nat)
    (hq : Quiescent ws) (hp : ws ≠ []) (hf : (mapBatch ws js sched fuel).finished = true) :
    (mapBatch ws js sched fuel).output = serial js ∧ Quiescent (mapBatch ws js sched fuel).ws ∧
      (mapBatch ws js sched fuel).ws ≠ [] := by
  obtain ⟨hd, hl⟩ := mapBatch_done ws js sched fuel hq hp hf
  exact ⟨hd.output, hd.quiet, fun h => hp (List.eq_nil_of_length_eq_zero (by rw [← hl, h]; rfl))⟩

/-- **Sequences of batches on one pool** (failing batches included): no batch sees anything of an earlier
one. -/
theorem batches_equal_serial (fuel : Nat) (ws : List (Worker α)) (bs : List (List (Res α) × List Nat))
    (hq : Quiescent ws) (hp : ws ≠ [])
    (hf : ∀ s ∈ runBatches fuel ws bs, s.finished = true) :
    (runBatches fuel ws bs).map MapSt.output = bs.map (fun b => serial b.1) :=
  (runBatches_done fuel bs ws hq hp hf).1

/-- **Callers pair results with inputs by position** (`samples_from_model`, emcee's walkers): if no
evaluation fails, zipping the inputs with what `map` returns pairs every input with its own value. -/
theorem map_pairs_inputs_with_their_values {β : Type} (ws : List (Worker α)) (xs : List β) (f : β → α)
    (evs : List Nat) (hq : Quiescent ws) (hp : ws ≠ [])
    (hf : ((initMap ws (xs.map (fun x => Res.ok (f x)))).run evs).finished = true) :
    xs.zip ((initMap ws (xs.map (fun x => Res.ok (f x)))).run evs).output.yielded
      = xs.map (fun x => (x, f x)) := by
  rw [map_equals_serial ws _ evs hq hp hf]
  have : xs.map (fun x => Res.ok (f x)) = (xs.map f).map Res.ok := by simp
  rw [this, serial_all_ok]
  simpa using List.zip_map' (f := id) (g := f) (l := xs)

/-- **Progress.** `MapSt.mu` counts the queue interactions still to happen. -/
theorem map_progress (ws : List (Worker α)) (js : List (Res α)) (evs : List Nat)
    (hq : Quiescent ws) (hp : ws ≠ []) (hf : ((initMap ws js).run evs).finished = false) :
    ∃ evs', (((initMap ws js).run evs).run evs').mu < ((initMap ws js).run evs).mu :=
  exists_decrease ((MapReach.init ws js hq hp).run evs) hf

/-- **No reachable state is a trap**: no deadlock, and no state from which the caller can only poll for ever. -/
theorem map_can_always_finish (ws : List (Worker α)) (js : List (Res α)) (evs : List Nat)
    (hq : Quiescent ws) (hp : ws ≠ []) :
    ∃ evs', ((initMap ws js).run (evs ++ evs')).finished = true := by
  obtain ⟨evs', h⟩ := can_finish ((MapReach.init ws js hq hp).run evs)
  exact ⟨evs', by rw [MapSt.run_append]; exact h⟩

/-- **Refutation for the pinned commit** (`legacyOutput` = values in the order the caller took them, which
is what `map` yielded before the repair): two workers, two inputs, second worker faster — the values come
back swapped, and the callers zip them with the inputs by position. -/
theorem legacy_map_misordered :
    ∃ evs : List Nat,
      ((initMap (newPool 2) [Res.ok 0, Res.ok 1]).run evs).finished = true ∧
      ((initMap (newPool 2) [Res.ok 0, Res.ok 1]).run evs).legacyOutput = ⟨[1, 0], none⟩ ∧
      serial [Res.ok 0, Res.ok 1] = ⟨[0, 1], none⟩ :=
  ⟨[0, 0, 2, 2, 0, 0, 1, 1, 0], by decide +kernel⟩

/-! ## Termination of `SneakyPool.map` under every fair schedule

`fairRounds P evs` counts the stretches of `evs` in which each of the `P + 1` actors gets at least one turn, in
any order and multiplicity; that is the only hypothesis on the scheduler.  A worker that holds work must get
turns (`map_starved_worker_never_finishes`), the caller must get turns to submit and to poll; its polling of
empty result queues is the only unproductive step, and at most `P - 1` of them happen in a row (`MapSt.dist`). -/

/-- **Variant.** `phi = P * (queue interactions still to happen) + (empty result queues the polling cursor has
to pass)`. -/
theorem map_variant_never_increases (ws : List (Worker α)) (js : List (Res α)) (evs evs2 : List Nat)
    (hq : Quiescent ws) (hp : ws ≠ []) :
    ((initMap ws js).run (evs ++ evs2)).phi ≤ ((initMap ws js).run evs).phi := by
  rw [MapSt.run_append]
  exact phi_run_le ((MapReach.init ws js hq hp).run evs) evs2

/-- **Every fair round makes progress.** -/
theorem map_fair_round_decreases_variant (ws : List (Worker α)) (js : List (Res α)) (evs r : List Nat)
    (hq : Quiescent ws) (hp : ws ≠ []) (hf : ((initMap ws js).run evs).finished = false)
    (hr : ∀ a ∈ List.range (ws.length + 1), a ∈ r) :
    ((initMap ws js).run (evs ++ r)).phi < ((initMap ws js).run evs).phi := by
  have h := MapReach.init ws js hq hp
  rw [MapSt.run_append]
  refine fair_round_decreases (h.run evs) hf r ?_
  rw [h.run_length]
  simpa [initMap] using hr

/-- **Termination with a computed bound**: `4·n·P + 1` fair rounds (`n` inputs, `P` workers), whatever else the
schedule contains. -/
theorem map_terminates_under_every_fair_schedule (ws : List (Worker α)) (js : List (Res α)) (evs : List Nat)
    (hq : Quiescent ws) (hp : ws ≠ []) (hfair : mapRoundBound ws.length js.length ≤ fairRounds ws.length evs) :
    ((initMap ws js).run evs).finished = true ∧ ((initMap ws js).run evs).output = serial js ∧
      leftover ((initMap ws js).run evs).ws = 0 := by
  have hfin : ((initMap ws js).run evs).finished = true := by
    rcases fair_rounds_finish ws.length _ (initMap ws js) evs (MapReach.init ws js hq hp) (by simp [initMap])
      hfair with h | h
    · exact h
    · rw [phi_init ws js hq] at h
      unfold mapRoundBound at h
      omega
  exact ⟨hfin, map_equals_serial ws js evs hq hp hfin, (map_no_leftover ws js evs hq hp hfin).2.1⟩

/-- so "within the bound" is "at the bound and ever after" -/
theorem map_finished_is_stable (ws : List (Worker α)) (js : List (Res α)) (evs evs2 : List Nat)
    (hf : ((initMap ws js).run evs).finished = true) : ((initMap ws js).run (evs ++ evs2)).finished = true := by
  rw [MapSt.run_append]
  exact finished_run hf evs2

/-- the function the driver executes for the fairness clause (`mapExact`: the schedule and nothing after it) -/
theorem mapExact_fair_spec (ws : List (Worker α)) (js : List (Res α)) (sched : List Nat)
    (hq : Quiescent ws) (hp : ws ≠ []) (hfair : mapRoundBound ws.length js.length ≤ fairRounds ws.length sched) :
    (mapExact ws js sched).finished = true ∧ (mapExact ws js sched).output = serial js :=
  (map_terminates_under_every_fair_schedule ws js sched hq hp hfair).imp_right And.left

/-- **Fairness is needed** (towards workers). -/
theorem map_starved_worker_never_finishes (evs : List Nat) (h : 2 ∉ evs) :
    ((initMap (newPool 2) [Res.ok (0 : Nat), Res.ok 1]).run evs).finished = false :=
  starved_never_finishes _ _ (quiescent_newPool 2) (by decide) 1 (by decide) (by decide) evs h

/-! ## `Process.run_jobs` -/

/-- **Results keyed by job.** With the exception counted once, whatever the schedule (stale `empty()`
answers included), what `run_jobs` yielded is a permutation of the outcomes: callers key them by job number. -/
theorem runjobs_yields_every_result_once (cfg : Cfg) (P : Nat) (js : List (Res α)) (evs : List Ev)
    (hc : cfg.countTwice = false) (hd : ((initRun cfg P js).run evs).done = true) :
    ((initRun cfg P js).run evs).yielded.Perm js ∧
      jobsOf ((initRun cfg P js).run evs).jobQ = [] ∧ rpipes ((initRun cfg P js).run evs).ws = [] := by
  have := runJobs_done cfg P js evs hc hd
  exact ⟨this.yielded, this.no_jobs, this.no_flight⟩

/-- **Each job is performed exactly once**, in queue order. -/
theorem runjobs_each_job_once (cfg : Cfg) (P : Nat) (js : List (Res α)) (evs : List Ev)
    (hc : cfg.countTwice = false) (hd : ((initRun cfg P js).run evs).done = true) :
    ((initRun cfg P js).run evs).performed = List.range js.length :=
  (runJobs_done cfg P js evs hc hd).performed

/-- at no point of any run (finished or not, any `cfg`) is a job performed twice or out of queue order, or
an outcome yielded that is not an outcome of the batch -/
theorem runjobs_never_duplicates (cfg : Cfg) (P : Nat) (js : List (Res α)) (evs : List Ev) :
    ((initRun cfg P js).run evs).performed <+: List.range js.length ∧
      ((initRun cfg P js).run evs).yielded.Sublist
        (((initRun cfg P js).run evs).yielded ++ (rpipes ((initRun cfg P js).run evs).ws ++
          (jobsOf ((initRun cfg P js).run evs).jobQ).map (·.res))) ∧
      (((initRun cfg P js).run evs).yielded ++ (rpipes ((initRun cfg P js).run evs).ws ++
          (jobsOf ((initRun cfg P js).run evs).jobQ).map (·.res))).Perm js := by
  have hi := runInv_run (runInv_init cfg P js) evs
  exact ⟨⟨_, hi.perf⟩, List.sublist_append_left _ _, hi.bag⟩

/-- **An exception is reported**: `AssertionError` is raised at the end iff some job failed. -/
theorem runjobs_exception_reported (cfg : Cfg) (P : Nat) (js : List (Res α)) (evs : List Ev)
    (hc : cfg.countTwice = false) (hd : ((initRun cfg P js).run evs).done = true) :
    ((initRun cfg P js).run evs).raised = js.any Res.isErr :=
  (runjobs_yields_every_result_once cfg P js evs hc hd).1.any_eq

/-- the function the driver executes (`schedule` then round-robin) is such a run -/
theorem runJobs_spec (cfg : Cfg) (P : Nat) (js : List (Res α)) (sched : List Ev) (fuel : Nat)
    (hc : cfg.countTwice = false) (hd : (runJobs cfg P js sched fuel).done = true) :
    (runJobs cfg P js sched fuel).yielded.Perm js ∧
      (runJobs cfg P js sched fuel).performed = List.range js.length ∧
      (runJobs cfg P js sched fuel).raised = js.any Res.isErr := by
  obtain ⟨evs, he⟩ := RunSt.runToEnd_eq_run fuel ((initRun cfg P js).run sched)
  have he' : runJobs cfg P js sched fuel = (initRun cfg P js).run (sched ++ evs) := by
    rw [runJobs, he, RunSt.run_append]
  rw [he'] at hd ⊢
  exact ⟨(runjobs_yields_every_result_once cfg P js _ hc hd).1, runjobs_each_job_once cfg P js _ hc hd,
    runjobs_exception_reported cfg P js _ hc hd⟩

/-- **No reachable state is a trap** (repaired worker loop: stop tokens instead of `empty()`; exception counted
once), stale `empty()` answers to the caller included.  Compare `legacy_runjobs_stale_empty_never_returns`. -/
theorem runjobs_can_always_finish (P : Nat) (hP : 0 < P) (js : List (Res α)) (evs : List Ev) :
    ∃ evs', ((initRun {} P js).run (evs ++ evs')).done = true := by
  have hi := runInv_run (runInv_init {} P js) evs
  have hl := runLive_run (runLive_init P js) evs
  have hc : ((initRun ({} : Cfg) P js).run evs).cfg.countTwice = false := by rw [RunSt.run_cfg]; rfl
  obtain ⟨evs', h⟩ := rcan_finish hi hl (by rw [RunSt.run_length]; simpa [initRun] using hP) hc
  exact ⟨evs', by rw [RunSt.run_append]; exact h⟩

/-- **Refutation for the pinned commit** (`countTwice`): one worker, a failing job followed by a good one;
the caller takes the exception before the worker finishes the second job, counts it twice, and returns —
the second job's result is never yielded. -/
theorem legacy_runjobs_drops_result_after_exception :
    ∃ evs : List Ev,
      ((initRun { countTwice := true } 1 [Res.err 7, Res.ok 1]).run evs).done = true ∧
      ((initRun { countTwice := true } 1 [Res.err 7, Res.ok 1]).run evs).yielded = [Res.err 7] :=
  ⟨[⟨1, false⟩, ⟨1, false⟩, ⟨0, false⟩, ⟨0, false⟩, ⟨0, false⟩, ⟨0, false⟩], by decide +kernel⟩

/-- **Refutation for the pinned commit** (`pollEmpty`): the only worker reads one stale `empty()` and
leaves; from then on **no** continuation of the schedule lets the caller return (it polls for ever). -/
theorem legacy_runjobs_stale_empty_never_returns (evs : List Ev) :
    ((initRun { pollEmpty := true } 1 [Res.ok 0]).run (⟨1, true⟩ :: evs)).done = false :=
  (stuck_run (s := (initRun { pollEmpty := true } 1 [Res.ok 0]).step ⟨1, true⟩) (by unfold Stuck; decide) evs).1

/-! ## Start-up and shutdown of the pools

`SneakyPool.__init__` starts `P` processes that block on their empty job queues (`newPool P`);
`SneakyPool.__del__` sends each process one `StopCommand` and joins with a timeout (`initDel`, `DelSt.step`).
The `map` theorems say a pool is quiescent whenever `map` has returned *or raised*; the theorems below start
from there, for every schedule of the `__del__` phase. -/

theorem pool_startup_quiescent (P : Nat) :
    Quiescent (newPool P : List (Worker α)) ∧ (newPool P : List (Worker α)).length = P :=
  ⟨quiescent_newPool P, by simp [newPool]⟩

/-- **No result is left behind at process level**, at every point of every schedule of the shutdown: the only
things ever queued are `StopCommand`s. -/
theorem shutdown_leaves_no_result (ws : List (Worker α)) (hq : Quiescent ws) (evs : List Nat) :
    ((initDel ws).run evs).results = 0 ∧
      ∀ l ∈ ((initDel ws).run evs).ws, l.w.jobQ = [] ∧ l.w.hold = none ∧ l.w.resQ = [] :=
  ⟨(shutdown_of_quiescent ws hq rfl evs).1, no_result_in_shutdown ws hq evs⟩

/-- **One `StopCommand` per process**, at every point of every schedule; a process has left only by taking its
own. -/
theorem shutdown_one_stop_per_process (ws : List (Worker α)) (hq : Quiescent ws) (evs : List Nat)
    (k : Nat) (l : LWorker α) (hk : ((initDel ws).run evs).ws[k]? = some l) :
    l.stops + (if l.alive = true then 0 else 1) = (if k < ((initDel ws).run evs).sent then 1 else 0) ∧
      ((initDel ws).run evs).sent ≤ ws.length := by
  have hi := delInv_run (delInv_init ws hq) evs
  refine ⟨(hi.each k l hk).2.2.2, ?_⟩
  have := hi.sent_le
  rw [DelSt.run_length] at this
  simpa [initDel] using this

/-- **Shutdown completes under every fair schedule**: after `P + 1` fair rounds no process of the pool runs and
no queue holds anything. -/
theorem shutdown_completes_under_every_fair_schedule (ws : List (Worker α)) (hq : Quiescent ws) (evs : List Nat)
    (hfair : ws.length + 1 ≤ fairRounds ws.length evs) : ((initDel ws).run evs).down = true :=
  (shutdown_of_quiescent ws hq rfl evs).2 hfair

/-- **Fairness is needed** for the second half: a process that is never served again stays, whatever else
happens. -/
theorem shutdown_unserved_process_stays (evs : List Nat) (h : 1 ∉ evs) :
    ∃ l, ((initDel (newPool 1 : List (Worker Nat))).run evs).ws[0]? = some l ∧ l.alive = true :=
  aliveK_run evs ⟨_, rfl, rfl⟩ h

/-- **A `map` call — returned or raised — followed by `__del__`**, whatever the two schedules. -/
theorem map_then_shutdown (ws : List (Worker α)) (js : List (Res α)) (evs dels : List Nat)
    (hq : Quiescent ws) (hp : ws ≠ []) (hf : ((initMap ws js).run evs).finished = true) :
    ((initDel ((initMap ws js).run evs).ws).run dels).results = 0 ∧
      (ws.length + 1 ≤ fairRounds ws.length dels →
        ((initDel ((initMap ws js).run evs).ws).run dels).down = true) := by
  obtain ⟨h1, _, h3⟩ := map_no_leftover ws js evs hq hp hf
  exact shutdown_of_quiescent _ h1 h3 dels

/-- the function the driver executes for a whole pool session (start, batches, `__del__`) -/
theorem poolSession_spec (P fuel : Nat) (hP : 0 < P) (bs : List (List (Res α) × List Nat)) (dels : List Nat)
    (hf : ∀ s ∈ runBatches fuel (newPool P) bs, s.finished = true) :
    (poolSession P fuel bs dels).results = 0 ∧
      (P + 1 ≤ fairRounds P dels → (poolSession P fuel bs dels).down = true) := by
  obtain ⟨hq0, hl0⟩ := pool_startup_quiescent (α := α) P
  have hp0 : (newPool P : List (Worker α)) ≠ [] := fun e => by rw [e] at hl0; exact Nat.ne_of_gt hP hl0.symm
  unfold poolSession
  cases hl : (runBatches fuel (newPool P) bs).getLast? with
  | none => exact shutdown_of_quiescent _ hq0 hl0 dels
  | some s =>
    obtain ⟨h1, h2⟩ := (runBatches_done fuel bs _ hq0 hp0 hf).2 s (List.mem_of_getLast? hl)
    exact shutdown_of_quiescent _ h1 (h2.trans hl0) dels

/-- **`Process.run_jobs`: one stop token per worker that has not left**, at every point of every schedule
(stop-token worker loop): no worker is left without a token to take, and none is taken twice. -/
theorem runjobs_stop_tokens_match_live_workers (P : Nat) (js : List (Res α)) (evs : List Ev) :
    stopTokens ((initRun {} P js).run evs).jobQ = liveWorkers ((initRun {} P js).run evs).ws :=
  (runLive_run (runLive_init P js) evs).tokens

/-- when `run_jobs` has left its loop (normally or on the way to raising `AssertionError`) nothing but those
stop tokens is on the shared queue and no result is queued or held anywhere -/
theorem runjobs_leaves_only_stop_tokens (P : Nat) (js : List (Res α)) (evs : List Ev)
    (hd : ((initRun {} P js).run evs).done = true) :
    jobsOf ((initRun {} P js).run evs).jobQ = [] ∧ rpipes ((initRun {} P js).run evs).ws = [] ∧
      stopTokens ((initRun {} P js).run evs).jobQ = liveWorkers ((initRun {} P js).run evs).ws :=
  have h := runJobs_done {} P js evs rfl hd
  ⟨h.no_jobs, h.no_flight, runjobs_stop_tokens_match_live_workers P js evs⟩

/-! ## non-vacuity: concrete runs meeting the hypotheses -/

example :
    let s := mapBatch (newPool 3) [Res.ok 10, Res.ok 11, Res.err 12, Res.ok 13, Res.ok 14]
      [0, 0, 0, 3, 3, 0, 0, 2, 2, 0, 0, 0, 1, 0, 0] 50
    s.finished = true ∧ s.output = ⟨[10, 11], some 12⟩ ∧ leftover s.ws = 0 := by decide +kernel

/-- the pool of the theorems' hypotheses exists -/
example : Quiescent (newPool 2 : List (Worker Nat)) ∧ (newPool 2 : List (Worker Nat)) ≠ [] :=
  ⟨quiescent_newPool 2, by decide⟩

example :
    (runBatches 50 (newPool 2) [([Res.ok 1, Res.err 2, Res.ok 3], [0, 0, 2, 2, 0]), ([Res.ok 4, Res.ok 5], [])]).map
      (fun s => (s.finished, s.output)) = [(true, ⟨[1], some 2⟩), (true, ⟨[4, 5], none⟩)] := by decide +kernel

example :
    let s := runJobs {} 2 [Res.ok 1, Res.err 2, Res.ok 3] [⟨2, false⟩, ⟨2, false⟩, ⟨0, false⟩, ⟨1, false⟩] 50
    s.done = true ∧ s.yielded.length = 3 ∧ s.raised = true ∧ s.performed = [0, 1, 2] := by decide +kernel

/-- a schedule meeting the fairness hypothesis; `map` has finished much earlier than the bound says -/
example :
    mapRoundBound 2 2 ≤ fairRounds 2 (List.replicate 17 [2, 0, 1]).flatten ∧
      (mapExact (newPool 2) [Res.ok 5, Res.err 6] (List.replicate 17 [2, 0, 1]).flatten).finished = true ∧
      (mapExact (newPool 2) [Res.ok 5, Res.err 6] (List.replicate 4 [2, 0, 1]).flatten).output = ⟨[5], some 6⟩ := by
  decide +kernel

example :
    ((initMap (newPool 2) [Res.ok 0, Res.ok 1]).run [0, 0, 1]).finished = false ∧
      ((initMap (newPool 2) [Res.ok 0, Res.ok 1]).run [0, 0, 1]).phi = 10 ∧
      ((initMap (newPool 2) [Res.ok 0, Res.ok 1]).run ([0, 0, 1] ++ [2, 0, 1])).phi = 7 := by decide +kernel

example :
    (poolSession 2 50 [([Res.ok 1, Res.err 2, Res.ok 3], [0, 0, 2, 2, 0])] [2, 0, 1, 0, 2, 1, 2, 0, 1]).down = true ∧
      3 ≤ fairRounds 2 [2, 0, 1, 0, 2, 1, 2, 0, 1] ∧
      (poolSession 2 50 [([Res.ok 1, Res.err 2, Res.ok 3], [0, 0, 2, 2, 0])] [0, 0]).queued = 2 ∧
      (poolSession 2 50 [([Res.ok 1, Res.err 2, Res.ok 3], [0, 0, 2, 2, 0])] [0, 0]).aliveCount = 2 := by decide +kernel

example :
    let s := (initRun {} 2 [Res.ok (1 : Nat)]).run [⟨1, false⟩, ⟨2, false⟩]
    stopTokens s.jobQ = 1 ∧ liveWorkers s.ws = 1 := by decide +kernel

end AF.C14
