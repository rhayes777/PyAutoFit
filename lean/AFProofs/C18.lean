import AFProofs.Lemmas.EP
import AFProofs.Lemmas.EPPlate

/-!
# C18 — expectation-propagation bookkeeping is exact

Property theorems about the `AF.EP` model (`AFModel/EP.lean`, `AFModel/EPPlate.lean`), which
`harness/c18.py` ties to `EPMeanField`, `MeanField.update_factor_mean_field`,
`AbstractDeclarativeFactor.message_dict`, `EPOptimiser.run`, `FactorHistory` / `EPResult` of /repo.
They hold for every natural-parameter space `G` (any `EtaSpace`, i.e. ℚ-module: any exponential
family, any dimension), every list of factors `fs` without repetition (a dict's keys), every state,
every new model distribution, every damping, every sequence of updates. Arrays are an `EtaSpace`
(`AF.EP.instEtaSpacePi`), so all of it holds for array-valued messages (plates) as stated; the
`plate_` theorems add that the array update with `np.where` validity is the scalar update of every
element.
-/

namespace AF.C18
open AF.EP

variable {G : Type} [EtaSpace G]

/-! ## identities for any factor graph and mean-field state -/

/-- **Model = own message × cavity**; when no other factor holds the variable the cavity is empty and
the model is the message itself. -/
theorem model_eq_message_times_cavity (fs : List Nat) (s : State G) (f v : Nat) (m : G)
    (h : s.get f v = some m) :
    modelOpt fs s f v = some (m + cavity fs s f v) ∧
    (present s v (others fs f) = false → modelOpt fs s f v = some m) := by
  constructor
  · simp [modelOpt, h, val_cavityOpt fs s f v (by simp [h])]
  · intro hp
    simp [modelOpt, h, cavityOpt, hp, val, EtaSpace.add_zero]

/-- the cavity dict has a key exactly for the factor's variables that some other factor holds, and
its value is the product over the other factors -/
theorem cavity_is_product_of_others (fs : List Nat) (s : State G) (f v : Nat) :
    cavityOpt fs s f v =
      if (s.get f v).isSome && (others fs f).any (fun g => (s.get g v).isSome)
      then some (total s v (fs.filter (fun g => g != f))) else none := rfl

/-- **The cavity excludes the factor itself**: it does not depend on the factor's own messages. -/
theorem cavity_ignores_own_message (fs : List Nat) (s s' : State G) (f v : Nat)
    (h : ∀ g, g ≠ f → s.get g v = s'.get g v) : cavity fs s f v = cavity fs s' f v :=
  total_congr s s' v _ fun g hg => h g (bne_iff_ne.mp (List.mem_filter.mp hg).2)

theorem global_split (fs : List Nat) (s : State G) (f v : Nat) (hnd : fs.Nodup) (hf : f ∈ fs) :
    global fs s v = val (s.get f v) + cavity fs s f v :=
  total_perm s v fs _ (perm_cons_others fs f hnd hf)

/-- **Model = global approximation on the factor's variables.** -/
theorem model_eq_global (fs : List Nat) (s : State G) (f v : Nat) (m : G) (hnd : fs.Nodup)
    (hf : f ∈ fs) (h : s.get f v = some m) : modelOpt fs s f v = some (global fs s v) := by
  rw [(model_eq_message_times_cavity fs s f v m h).1, global_split fs s f v hnd hf, h]
  rfl

/-- **The global approximation is the product of all factor messages**, in whatever order the
factors are stored (dict, list, sorted …). -/
theorem global_perm (fs fs' : List Nat) (s : State G) (v : Nat) (h : fs.Perm fs') :
    global fs s v = global fs' s v :=
  total_perm s v fs fs' h

/-! ## one update -/

/-- **An update changes only that factor's message.** -/
theorem update_only_that_factor (valid : G → Bool) (s : State G) (a : Approx G) (q : Field G)
    (δ : Delta) (g v : Nat) (hg : g ≠ a.f) : (project valid s a q δ).get g v = s.get g v := by
  rw [get_project, if_neg (Ne.symm hg)]

/-- the updated factor holds one message per variable of the new model distribution -/
theorem update_own_message (valid : G → Bool) (s : State G) (a : Approx G) (q : Field G)
    (δ : Delta) (v : Nat) :
    (project valid s a q δ).get a.f v = (lookup q v).map (newMsg valid a δ v) := by
  rw [get_project, if_pos rfl]

/-- After the projection of `a.f` from any approximation `a`, fresh or stale, the global approximation
is the new message of `a.f` times the cavity `a.f` had: the other factors' messages are untouched. -/
theorem global_project (fs : List Nat) (valid : G → Bool) (s : State G) (a : Approx G) (q : Field G)
    (δ : Delta) (v : Nat) (qv : G) (hnd : fs.Nodup) (hf : a.f ∈ fs) (hq : lookup q v = some qv) :
    global fs (project valid s a q δ) v = newMsg valid a δ v qv + cavity fs s a.f v := by
  rw [global_split fs _ a.f v hnd hf, update_own_message, hq,
    cavity_ignores_own_message fs _ s a.f v fun g hg => update_only_that_factor valid s a q δ g v hg]
  rfl

/-- **A full update makes the global approximation equal the newly fitted distribution** on every
variable of the factor whose projection is proper (`valid`): for a fresh approximation
(`approx fs s f`), `delta >= 1` (`δ.at v = none`). -/
theorem full_update_sets_global (fs : List Nat) (valid : G → Bool) (s : State G) (f v : Nat)
    (q : Field G) (δ : Delta) (qv : G) (hnd : fs.Nodup) (hf : f ∈ fs)
    (hheld : (s.get f v).isSome) (hq : lookup q v = some qv) (hδ : δ.at v = none)
    (hvalid : valid (qv - cavity fs s f v) = true) :
    global fs (project valid s (approx fs s f) q δ) v = qv := by
  have hcand : candidate (approx fs s f) (δ.at v) v qv = qv - cavity fs s f v := by
    rw [hδ, ← val_cavityOpt fs s f v hheld]; rfl
  rw [global_project fs valid s (approx fs s f) q δ v qv hnd hf hq,
    newMsg_valid valid _ δ v qv _ hcand hvalid]
  exact EtaSpace.sub_add_cancel qv _

/-- **Damping.** With exponent `d` for `v` and a proper projection, the new global approximation is
`q^d · (previous global)^(1-d)`: the convex combination in natural parameters. -/
theorem damped_update_global (fs : List Nat) (valid : G → Bool) (s : State G) (f v : Nat)
    (q : Field G) (δ : Delta) (qv m : G) (d : Rat) (hnd : fs.Nodup) (hf : f ∈ fs)
    (hheld : s.get f v = some m) (hq : lookup q v = some qv) (hδ : δ.at v = some d)
    (hvalid : valid ((d • qv + (1 - d) • m) - d • cavity fs s f v) = true) :
    global fs (project valid s (approx fs s f) q δ) v = d • qv + (1 - d) • global fs s v := by
  have hcand : candidate (approx fs s f) (δ.at v) v qv
      = (d • qv + (1 - d) • m) - d • cavity fs s f v := by
    simp only [hδ, candidate, approx, hheld, val_cavityOpt fs s f v (hheld ▸ rfl), val_some]
  rw [global_project fs valid s (approx fs s f) q δ v qv hnd hf hq,
    newMsg_valid valid _ δ v qv _ hcand hvalid, global_split fs s f v hnd hf, hheld]
  exact damped_cancel d qv m _

/-- a per-variable exponent of exactly 1 (what `DynamicUpdater(1.0)` gives the least-shared
variables) is a full update -/
theorem damping_one_is_full_update (fs : List Nat) (valid : G → Bool) (s : State G) (f v : Nat)
    (q : Field G) (δ : Delta) (qv m : G) (hnd : fs.Nodup) (hf : f ∈ fs)
    (hheld : s.get f v = some m) (hq : lookup q v = some qv) (hδ : δ.at v = some 1)
    (hvalid : valid (((1 : Rat) • qv + (1 - 1 : Rat) • m) - (1 : Rat) • cavity fs s f v) = true) :
    global fs (project valid s (approx fs s f) q δ) v = qv := by
  rw [damped_update_global fs valid s f v q δ qv m 1 hnd hf hheld hq hδ hvalid, Rat.sub_self,
    EtaSpace.one_smul, EtaSpace.zero_smul, EtaSpace.add_zero]

theorem damping_zero_keeps_global (fs : List Nat) (valid : G → Bool) (s : State G) (f v : Nat)
    (q : Field G) (δ : Delta) (qv m : G) (hnd : fs.Nodup) (hf : f ∈ fs)
    (hheld : s.get f v = some m) (hq : lookup q v = some qv) (hδ : δ.at v = some 0)
    (hvalid : valid (((0 : Rat) • qv + (1 - 0 : Rat) • m) - (0 : Rat) • cavity fs s f v) = true) :
    global fs (project valid s (approx fs s f) q δ) v = global fs s v := by
  rw [damped_update_global fs valid s f v q δ qv m 0 hnd hf hheld hq hδ hvalid,
    Rat.sub_eq_add_neg, Rat.neg_zero, Rat.add_zero, EtaSpace.one_smul, EtaSpace.zero_smul, zero_add]

omit [EtaSpace G] in
/-- `DynamicUpdater(d)`: the least-shared variables are updated with exponent exactly `d` (so with
the default `d = 1` they receive a full update, `damping_one_is_full_update`) -/
theorem dynamic_delta_of_least_shared (fs vars : List Nat) (s : State G) (d : Rat) (v : Nat)
    (hmin : msgCount fs s v = minList (vars.map (msgCount fs s))) (hpos : msgCount fs s v ≠ 0) :
    dynamicDelta fs vars s d v = d := by
  unfold dynamicDelta
  rw [← hmin, Rat.div_def, Rat.mul_inv_cancel _ (mt Rat.natCast_eq_zero_iff.mp hpos), Rat.mul_one]

/-- **Improper projection.** When the candidate message is outside the family's domain the factor
keeps its previous message for that variable (so the global approximation does not move). -/
theorem improper_projection_keeps_message (fs : List Nat) (valid : G → Bool) (s : State G)
    (f v : Nat) (q : Field G) (δ : Delta) (qv m : G) (hheld : s.get f v = some m)
    (hq : lookup q v = some qv)
    (hinvalid : valid (candidate (approx fs s f) (δ.at v) v qv) = false) :
    (project valid s (approx fs s f) q δ).get f v = some m := by
  refine (update_own_message valid s (approx fs s f) q δ v).trans ?_
  rw [hq]
  exact congrArg some (newMsg_invalid valid (approx fs s f) δ v qv m hinvalid hheld)

/-! ## all sequences of updates with any damping -/

theorem history_length (fs : List Nat) (valid : G → Bool) (ops : List (Op G)) :
    ∀ (stack : List (State G)) (cur : State G), (run fs valid stack cur ops).length = ops.length := by
  induction ops with
  | nil => intros; rfl
  | cons op rest ih => intro stack cur; simp [run, ih]

/-- the state before update `i` of a run: the state the previous update left (or the start) -/
def stateBefore (outs : List (StepOut G)) (cur : State G) (i : Nat) : State G :=
  ((cur :: outs.map (fun o => o.state))[i]?).getD []

/-- **Every update of every run is one `step`** from the state the previous update left: so the
one-update theorems above apply to each update of any sequence (whatever factors, new
distributions, dampings and stale approximations came before). -/
theorem history_step (fs : List Nat) (valid : G → Bool) (ops : List (Op G)) :
    ∀ (stack : List (State G)) (cur : State G) (i : Nat) (op : Op G), ops[i]? = some op →
      ∃ stack', (run fs valid stack cur ops)[i]? =
        some (step fs valid stack' (stateBefore (run fs valid stack cur ops) cur i) op) := by
  induction ops with
  | nil => intro _ _ i op h; simp at h
  | cons op0 rest ih =>
    intro stack cur i op h
    cases i with
    | zero =>
      obtain rfl : op0 = op := Option.some.inj h
      exact ⟨stack, rfl⟩
    | succ j =>
      obtain ⟨stack', hs⟩ := ih (cur :: stack) (step fs valid stack cur op0).state j op h
      exact ⟨stack', hs⟩

/-- **Factors that are not updated keep their messages through any sequence of updates.** -/
theorem history_untouched_factor (fs : List Nat) (valid : G → Bool) (ops : List (Op G)) (g v : Nat)
    (hg : ∀ op ∈ ops, op.f ≠ g) :
    ∀ (stack : List (State G)) (cur : State G), ∀ o ∈ run fs valid stack cur ops,
      o.state.get g v = cur.get g v := by
  induction ops with
  | nil => intro _ _ o ho; cases ho
  | cons op rest ih =>
    intro stack cur o ho
    have hstep : (step fs valid stack cur op).state.get g v = cur.get g v :=
      update_only_that_factor valid cur _ op.q _ g v (Ne.symm (hg op List.mem_cons_self))
    rcases List.mem_cons.mp ho with rfl | ho
    · exact hstep
    · rw [ih (fun op' h' => hg op' (List.mem_cons_of_mem _ h')) _ _ o ho, hstep]

/-- **After any sequence of updates, a full update with a fresh approximation and a proper
projection makes the global approximation the newly fitted distribution.** -/
theorem history_full_update_sets_global (fs : List Nat) (valid : G → Bool) (ops : List (Op G))
    (stack : List (State G)) (cur : State G) (i : Nat) (op : Op G) (o : StepOut G) (v : Nat) (qv : G)
    (hnd : fs.Nodup) (hf : op.f ∈ fs) (hop : ops[i]? = some op)
    (ho : (run fs valid stack cur ops)[i]? = some o) (hfresh : op.age = 0)
    (hheld : ((stateBefore (run fs valid stack cur ops) cur i).get op.f v).isSome)
    (hq : lookup op.q v = some qv)
    (hδ : (op.delta (stateBefore (run fs valid stack cur ops) cur i)).at v = none)
    (hvalid : valid (qv - cavity fs (stateBefore (run fs valid stack cur ops) cur i) op.f v) = true) :
    global fs o.state v = qv := by
  obtain ⟨stack', hs⟩ := history_step fs valid ops stack cur i op hop
  rw [ho] at hs
  cases hs
  simp only [step, hfresh]
  exact full_update_sets_global fs valid _ op.f v op.q _ qv hnd hf hheld hq hδ hvalid

/-! ## the start of a declarative graph fit -/

/-- **Initial cavity = the user's prior**, for any graph: if every factor holding `v` starts with
`prior ** (1/(c-1))`, where `c ≥ 2` is the number of factors that hold `v`, the cavity of each of
them for `v` is the prior. -/
theorem initial_cavity_is_prior (fs : List Nat) (scope : Nat → List Nat) (cnt : Nat → Nat)
    (prior : Nat → G) (f v : Nat) (hnd : fs.Nodup) (hf : f ∈ fs) (hv : v ∈ scope f)
    (hcnt : cnt v = holders fs scope v) (h2 : 2 ≤ cnt v) :
    cavityOpt fs (initState fs scope cnt prior) f v = some (prior v) := by
  rw [cavityOpt_initState fs scope cnt prior f v hnd hf hv, ← hcnt, if_neg (Nat.ne_of_gt h2)]
  unfold initMsg
  rw [if_pos (show cnt v > 1 from h2), smul_inv_cancel (cnt v - 1) (Nat.sub_ne_zero_of_lt h2)]

/-- a variable held by a single factor has no cavity and the factor's model distribution is the
user's prior (the factor is fitted with the prior itself) -/
theorem initial_single_holder (fs : List Nat) (scope : Nat → List Nat) (cnt : Nat → Nat)
    (prior : Nat → G) (f v : Nat) (hnd : fs.Nodup) (hf : f ∈ fs) (hv : v ∈ scope f)
    (hcnt : cnt v = holders fs scope v) (h1 : cnt v = 1) :
    cavityOpt fs (initState fs scope cnt prior) f v = none ∧
    modelOpt fs (initState fs scope cnt prior) f v = some (prior v) := by
  have hcav := cavityOpt_initState fs scope cnt prior f v hnd hf hv
  rw [← hcnt, if_pos h1] at hcav
  have hself : (initState fs scope cnt prior).get f v = some (prior v) := by
    rw [get_initState]
    simp [hf, hv, initMsg, h1]
  exact ⟨hcav, by simp [modelOpt, hself, hcav, val, EtaSpace.add_zero]⟩

/-- the repaired `prior_counts` of a `FactorGraphModel` is the number of graph factors (model
factors and, if included, the prior factor) that hold the variable -/
theorem declarative_count_is_holders (d : Decl) (cfg : Cfg) (hc : cfg.countPerFactor = true)
    (v : Nat) (hv : v ∈ d.priors) : d.count cfg v = holders d.factors d.scope v := by
  symm
  unfold holders Decl.count
  rw [← List.countP_eq_length_filter]
  show List.countP ((fun sc : List Nat => sc.contains v) ∘ d.scope) d.factors = _
  rw [← List.countP_map, map_scope_factors, List.countP_append, List.countP_map, hc, if_pos rfl,
    ← List.countP_eq_length_filter]
  congr 1
  · apply List.countP_congr
    intro ps _
    show (dedup ps).contains v = true ↔ ps.contains v = true
    rw [List.contains_iff_mem, List.contains_iff_mem, mem_dedup]
  · cases d.ipf with
    | false => rfl
    | true =>
      -- each prior has one prior factor, and `priors` has no repetition
      have hnd : d.priors.Nodup := dedup_nodup _
      rw [if_pos rfl, if_pos rfl, List.countP_map]
      refine (List.countP_congr fun p _ => ?_).trans ((hnd.count (a := v)).trans (if_pos hv))
      show [p].contains v = true ↔ (p == v) = true
      rw [List.contains_iff_mem, List.mem_singleton, beq_iff_eq, eq_comm]

/-- **At the start of a declarative graph fit every factor's cavity for every variable that another
factor also holds equals the user's prior** (repaired counting; any sharing pattern, priors repeated
within a factor, prior factors on or off). -/
theorem declarative_initial_cavity_is_prior (d : Decl) (cfg : Cfg) (prior : Nat → G) (f v : Nat)
    (hc : cfg.countPerFactor = true) (hf : f ∈ d.factors) (hv : v ∈ d.scope f)
    (h2 : 2 ≤ d.count cfg v) :
    cavityOpt d.factors (d.init cfg prior) f v = some (prior v) :=
  initial_cavity_is_prior d.factors d.scope (d.count cfg) prior f v List.nodup_range hf hv
    (declarative_count_is_holders d cfg hc v (scope_subset_priors d f v hv)) h2

/-- … and a variable no other factor holds is fitted with the user's prior itself -/
theorem declarative_initial_single_holder (d : Decl) (cfg : Cfg) (prior : Nat → G) (f v : Nat)
    (hc : cfg.countPerFactor = true) (hf : f ∈ d.factors) (hv : v ∈ d.scope f)
    (h1 : d.count cfg v = 1) :
    cavityOpt d.factors (d.init cfg prior) f v = none ∧
    modelOpt d.factors (d.init cfg prior) f v = some (prior v) :=
  initial_single_holder d.factors d.scope (d.count cfg) prior f v List.nodup_range hf hv
    (declarative_count_is_holders d cfg hc v (scope_subset_priors d f v hv)) h1

/-- the graph of the refutation below: factor 0 holds prior 0 at two places, factor 1 at one -/
def sharedTwice : Decl := { places := [[0, 0], [0]], ipf := false }

/-- **Pinned commit (counting per place).** A prior held at two places of one factor is counted
twice: the messages start as `prior ** (1/2)` and the cavity of factor 0 is `prior ** (1/2)`, not
the prior. -/
theorem initial_cavity_refuted_when_counted_per_place :
    cavityOpt sharedTwice.factors
      (sharedTwice.init { countPerFactor := false } (fun _ => (1 : Rat))) 0 0 = some (1 / 2 : Rat)
    ∧ cavityOpt sharedTwice.factors
      (sharedTwice.init { countPerFactor := true } (fun _ => (1 : Rat))) 0 0 = some (1 : Rat) := by
  decide +kernel

/-! ## result accessors -/

/-- **The latest result is that of the most recent successful optimisation.** -/
theorem latest_is_last_success {R : Type} (cfg : Cfg) (hc : cfg.latestIsLast = true)
    (pre post : List (Bool × R)) (r : R) (hpost : ∀ e ∈ post, e.1 = false) :
    latest cfg (pre ++ (true, r) :: post) = some r := by
  have hfp : post.filter (fun e => e.1) = [] := by
    apply List.filter_eq_nil_iff.mpr
    intro e he; simp [hpost e he]
  simp [latest, hc, List.filter_append, hfp]

/-- whatever it returns is the result of a *successful* entry of that factor's history -/
theorem latest_is_success {R : Type} (cfg : Cfg) (h : List (Bool × R)) (r : R)
    (hl : latest cfg h = some r) : (true, r) ∈ h := by
  unfold latest at hl
  have hmem : r ∈ (h.filter (fun e => e.1)).map (fun e => e.2) := by
    split at hl
    · exact List.mem_of_getLast? hl
    · exact List.mem_of_head? hl
  obtain ⟨⟨b, x⟩, he, rfl⟩ := List.mem_map.mp hmem
  obtain ⟨hin, hs⟩ := List.mem_filter.mp he
  exact (show b = true from hs) ▸ hin

/-- it is absent (`HistoryException`) exactly when no optimisation of the factor succeeded -/
theorem latest_none_iff {R : Type} (cfg : Cfg) (h : List (Bool × R)) :
    latest cfg h = none ↔ ∀ e ∈ h, e.1 = false := by
  unfold latest
  have key : ((h.filter (fun e => e.1)).map (fun e => e.2) = []) ↔ ∀ e ∈ h, e.1 = false := by
    rw [List.map_eq_nil_iff, List.filter_eq_nil_iff]
    exact forall₂_congr fun e _ => Bool.eq_false_iff.symm
  split
  · rw [List.getLast?_eq_none_iff]; exact key
  · rw [List.head?_eq_none_iff]; exact key

/-- `EPResult.latest_results`: one entry per model factor, each that factor's latest result -/
theorem latest_results_per_factor {R : Type} (cfg : Cfg) (hist : Nat → List (Bool × R)) (n f : Nat)
    (hf : f < n) : (latestResults cfg hist n)[f]? = some (latest cfg (hist f)) := by
  simp [latestResults, hf]

/-- **Pinned commit.** `latest_result` returned the *first* successful result. -/
theorem latest_refuted_when_first :
    latest { latestIsLast := false } [(true, 1), (true, 2)] = some 1 ∧
    latest { latestIsLast := true } [(true, 1), (true, 2)] = some 2 :=
  ⟨rfl, rfl⟩

/-! ## non-vacuity: concrete states meeting the hypotheses -/

/-- two factors share variable 0; factor 0 is fully updated with `q = 5`: the global approximation
becomes 5 -/
example :
    let fs := [0, 1]
    let s : State Rat := [(0, [(0, 1)]), (1, [(0, 2)])]
    global fs (project (fun _ => true) s (approx fs s 0) [(0, 5)] (.scalar 1)) 0 = 5 := by
  decide +kernel

/-- the same with damping 1/2: the global approximation moves half way from 3 to 5 -/
example :
    let fs := [0, 1]
    let s : State Rat := [(0, [(0, 1)]), (1, [(0, 2)])]
    global fs (project (fun _ => true) s (approx fs s 0) [(0, 5)] (.scalar (1 / 2))) 0 = 4 := by
  decide +kernel

/-- an improper projection (`q` less precise than the cavity) keeps the previous message -/
example :
    let fs := [0, 1]
    let s : State Rat := [(0, [(0, -1)]), (1, [(0, -2)])]
    (project (fun e => e < 0) s (approx fs s 0) [(0, -1)] (.scalar 1)).get 0 0 = some (-1) := by
  decide +kernel

/-- a declarative graph with prior factors: three factors hold prior 0 (two model factors and its
prior factor), messages start as `prior ** (1/2)` and every cavity is the prior -/
example :
    let d : Decl := { places := [[0, 0, 1], [0]], ipf := true }
    d.count {} 0 = 3 ∧ cavityOpt d.factors (d.init {} (fun _ => (7 : Rat))) 0 0 = some 7
      ∧ cavityOpt d.factors (d.init {} (fun _ => (7 : Rat))) 3 1 = some 7 := by
  decide +kernel

/-! ## array-valued messages: plates -/

/-- model = own message × cavity for array-valued messages, element by element (the general theorem
at `G := I → G`) -/
theorem plate_model_eq_message_times_cavity {I : Type} (fs : List Nat) (s : State (I → G))
    (f v : Nat) (m : I → G) (h : s.get f v = some m) (i : I) :
    (modelOpt fs s f v).map (fun x => x i) = some (m i + cavity fs s f v i) := by
  rw [(model_eq_message_times_cavity fs s f v m h).1]
  rfl

theorem plate_approx_is_elementwise {I : Type} (fs : List Nat) (s : State (I → G)) (f : Nat) (i : I) :
    sliceApprox i (approx fs s f) = approx fs (sliceState i s) f :=
  approx_slice i fs s f

theorem plate_global_is_elementwise {I : Type} (fs : List Nat) (s : State (I → G)) (v : Nat) (i : I) :
    global fs s v i = global fs (sliceState i s) v :=
  (total_slice i s v fs).symm

/-- **An update of array-valued messages (improper elements replaced one by one, `np.where`) is the
scalar update of every element**: plates are independent copies of the scalar bookkeeping. -/
theorem plate_update_is_elementwise {I : Type} (valid : G → Bool) (fs : List Nat) (s : State (I → G))
    (f : Nat) (q : Field (I → G)) (δ : Delta) (i : I) :
    sliceState i (projectArr valid s (approx fs s f) q δ) =
      project valid (sliceState i s) (approx fs (sliceState i s) f) (sliceField i q) δ := by
  rw [projectArr_slice, approx_slice]

theorem plate_update_only_that_factor {I : Type} (valid : G → Bool) (s : State (I → G))
    (a : Approx (I → G)) (q : Field (I → G)) (δ : Delta) (g v : Nat) (hg : g ≠ a.f) :
    (projectArr valid s a q δ).get g v = s.get g v := by
  unfold projectArr
  rw [get_cons, if_neg (Ne.symm hg)]

/-- **Full update, element by element**: every element whose projection is proper makes the global
approximation equal the newly fitted distribution there (whatever happens to the other elements). -/
theorem plate_full_update_sets_global {I : Type} (fs : List Nat) (valid : G → Bool)
    (s : State (I → G)) (f v : Nat) (q : Field (I → G)) (δ : Delta) (qv : I → G) (i : I)
    (hnd : fs.Nodup) (hf : f ∈ fs) (hheld : (s.get f v).isSome) (hq : lookup q v = some qv)
    (hδ : δ.at v = none) (hvalid : valid (qv i - cavity fs s f v i) = true) :
    global fs (projectArr valid s (approx fs s f) q δ) v i = qv i := by
  rw [plate_global_is_elementwise, plate_update_is_elementwise]
  apply full_update_sets_global fs valid (sliceState i s) f v (sliceField i q) δ (qv i) hnd hf
  · rw [get_sliceState]; simpa using hheld
  · rw [lookup_sliceField, hq]; rfl
  · exact hδ
  · rw [cavity_slice]; exact hvalid

theorem plate_damped_update_global {I : Type} (fs : List Nat) (valid : G → Bool)
    (s : State (I → G)) (f v : Nat) (q : Field (I → G)) (δ : Delta) (qv m : I → G) (d : Rat) (i : I)
    (hnd : fs.Nodup) (hf : f ∈ fs) (hheld : s.get f v = some m) (hq : lookup q v = some qv)
    (hδ : δ.at v = some d)
    (hvalid : valid ((d • qv i + (1 - d) • m i) - d • cavity fs s f v i) = true) :
    global fs (projectArr valid s (approx fs s f) q δ) v i = d • qv i + (1 - d) • global fs s v i := by
  rw [plate_global_is_elementwise, plate_update_is_elementwise, plate_global_is_elementwise]
  apply damped_update_global fs valid (sliceState i s) f v (sliceField i q) δ (qv i) (m i) d hnd hf
  · rw [get_sliceState, hheld]; rfl
  · rw [lookup_sliceField, hq]; rfl
  · exact hδ
  · rw [cavity_slice]; exact hvalid

theorem plate_improper_element_keeps_message {I : Type} (fs : List Nat) (valid : G → Bool)
    (s : State (I → G)) (f v : Nat) (q : Field (I → G)) (δ : Delta) (qv m : I → G) (i : I)
    (hheld : s.get f v = some m) (hq : lookup q v = some qv)
    (hinvalid : valid (candidate (approx fs s f) (δ.at v) v qv i) = false) :
    ((projectArr valid s (approx fs s f) q δ).get f v).map (fun x => x i) = some (m i) := by
  rw [← get_sliceState, plate_update_is_elementwise]
  apply improper_projection_keeps_message fs valid (sliceState i s) f v (sliceField i q) δ (qv i) (m i)
  · rw [get_sliceState, hheld]; rfl
  · rw [lookup_sliceField, hq]; rfl
  · rw [← approx_slice, candidate_slice]; exact hinvalid

/-! ## batches: `EPMeanFieldSubset` and plate indexing -/

/-- **Batch approximation**: the share `message ** scale` the factor is fitted with times the cavity
(the other factors' messages times the rest of the factor's own message) is the model distribution. -/
theorem subset_model_eq_message_times_cavity (fs : List Nat) (s : State G) (scale : Nat → Rat)
    (f v : Nat) (m c : G) (h : s.get f v = some m) (hc : cavityOpt fs s f v = some c) :
    (subApprox fs s scale f).model v =
      some (val ((subApprox fs s scale f).old v) + val ((subApprox fs s scale f).cavity v)) := by
  simp only [subApprox, modelOpt, h, hc, Option.map_some, val_some]
  split
  · rw [val_some, EtaSpace.add_comm c, ← EtaSpace.add_assoc, share_split]
  · rfl

omit [EtaSpace G] in
/-- merging an unchanged batch back changes nothing -/
theorem merge_subset_self (axes : List Axis) (old : Nat → G) :
    mergeArr (some axes) old (subArr (some axes) old) = old := by
  funext i
  simp only [mergeArr, subArr]
  cases h : posOf axes i with
  | none => rfl
  | some k => simp [(posOf_some axes i k h).1]

omit [EtaSpace G] in
/-- **Merging a batch leaves every element outside the batch as it was.** -/
theorem merge_untouched_elements (axes : List Axis) (old new : Nat → G) (i : Nat)
    (h : ∀ k, k < subSize axes → flatIdx axes k ≠ i) : mergeArr (some axes) old new i = old i := by
  simp only [mergeArr]
  cases hp : posOf axes i with
  | none => rfl
  | some k => exact absurd (posOf_some axes i k hp).1 (h k (posOf_some axes i k hp).2)

omit [EtaSpace G] in
/-- **… and the batch's elements are the batch's messages** (positions selected once) -/
theorem subset_of_merge (axes : List Axis) (old new : Nat → G) (k : Nat) (hk : k < subSize axes)
    (hinj : ∀ k', k' < subSize axes → flatIdx axes k' = flatIdx axes k → k' = k) :
    subArr (some axes) (mergeArr (some axes) old new) k = new k := by
  simp only [mergeArr, subArr]
  cases hp : posOf axes (flatIdx axes k) with
  | none => exact absurd rfl (posOf_none axes _ hp k hk)
  | some k' =>
    have h := posOf_some axes _ k' hp
    simp only [hinj k' h.2 h.1]

omit [EtaSpace G] in
/-- a variable none of whose plates is selected is exchanged as a whole -/
theorem merge_whole_when_no_plate_selected (P : Plates) (ix : PIndex) (v : Nat) (old new : Nat → G)
    (h : (P.dims v).any (fun p => (lookup ix p).isSome) = false) :
    mergeArr (axesOf P ix v) old new = new ∧ subArr (axesOf P ix v) old = old := by
  simp [axesOf, h, mergeArr, subArr]

/-! ## `log_norm` -/

/-- what the code does: the `log_norm` of a newly fitted distribution does not reach the factor's
stored mean field -/
theorem log_norm_dropped_by_projection (l : Rat) : projectedLogNorm l = 0 := rfl

theorem log_norms_after_updates_zero (fs : List Nat) (ups : List (Nat × Rat)) :
    ∀ p ∈ logNormsAfter fs ups, p.2 = 0 := by
  intro p hp
  simp only [logNormsAfter, List.mem_map] at hp
  obtain ⟨f, _, rfl⟩ := hp
  cases (ups.filter (fun u => u.1 == f)).getLast? <;> rfl

/-- one variable over a plate of size 2 held by two factors; element 1 of factor 0's message is
fully updated to -5, element 0 (improper: `q` less precise than the cavity) keeps its message -/
example :
    let fs := [0, 1]
    let s : State (Nat → Rat) := [(0, [(0, fun i => if i = 0 then -1 else -1)]), (1, [(0, fun _ => -2)])]
    let q : Field (Nat → Rat) := [(0, fun i => if i = 0 then -1 else -5)]
    let s' := projectArr (fun e => e < 0) s (approx fs s 0) q (.scalar 1)
    global fs s' 0 1 = -5 ∧ (s'.get 0 0).map (fun x => x 0) = some (-1) := by
  decide +kernel

/-- a 2 x 3 array indexed at rows [1] (`np.ix_([1], [0, 1, 2])`): flat positions 3, 4, 5 -/
example :
    let axes : List Axis := [{ seq := [1], full := 2 }, { seq := [0, 1, 2], full := 3 }]
    (List.range (subSize axes)).map (flatIdx axes) = [3, 4, 5] := by
  decide +kernel

end AF.C18
