import AFProofs.Lemmas.Query
import AFProofs.Lemmas.QuerySql

/-!
# C10 — database queries return exactly the fits satisfying the predicate

About the `Query` model (`AFModel/Query.lean`), for every predicate expression (any nesting of and / or / not over
path comparisons, type tests, fit-attribute and info conditions), every database (any list of fits whose stored
instances have unique attribute names under each parent), any number type `α` with any comparison `ops`, any
merging depth `fuel`. The model is tied to /repo by `harness/c10.py`.

`cfg.junctionKeepsNot` / `cfg.sliceWindow` / the argument `bare` of `compileSTop` = `true` is the repaired
behaviour (fixes/C10-*.patch); for `false` (the pinned commit) the refutations `compile_refuted_not_merge`,
`slice_refuted` and `compile_refuted_bare_or` are proved.
-/

namespace AF.C10
open AF.Query

variable {α : Type}

/-- **Path comparison.** `aggregator.model.a.b.c op const` — the nested `NamedQuery` chain with its joins — holds
for a fit iff following `a.b.c` from the stored instance reaches an object of the constant's kind on which the
comparison holds (a missing attribute or a value of another kind makes it false). -/
theorem path_comparison_correct (ops : NumOps α) (f : Fit α) (hwf : f.inst.WF = true)
    (n : String) (ns : List String) (leaf : Leaf α) :
    sem ops f (pathQ (n :: ns) leaf) f.inst = (f.inst.follow (n :: ns)).any (leafHolds ops leaf) :=
  sem_pathQ ops f leaf (n :: ns) f.inst hwf

/-- **Negation.** `~q` selects exactly the fits `q` does not select (named query: `NOT IN`; anything else:
complement query). -/
theorem negation_correct (ops : NumOps α) (f : Fit α) (q : Q α) (o : Obj α) :
    sem ops f (invert q) o = !sem ops f q o :=
  sem_invert ops f q o

/-- **And.** `And(*cs)` — after flattening, merging named queries of the same name and collapsing — holds iff
every argument holds; any list of conditions, any merging depth. -/
theorem and_correct (ops : NumOps α) (f : Fit α) (cfg : Cfg) (hcfg : cfg.junctionKeepsNot = true) (fuel : Nat)
    (cs : List (Q α)) (o : Obj α) (hwf : o.WF = true) :
    sem ops f (mkJ cfg fuel true cs) o = cs.all (fun c => sem ops f c o) :=
  mkJ_sem ops f cfg hcfg fuel true cs o hwf

/-- **Or.** `Or(*cs)` holds iff some argument holds. -/
theorem or_correct (ops : NumOps α) (f : Fit α) (cfg : Cfg) (hcfg : cfg.junctionKeepsNot = true) (fuel : Nat)
    (cs : List (Q α)) (o : Obj α) (hwf : o.WF = true) :
    sem ops f (mkJ cfg fuel false cs) o = cs.any (fun c => sem ops f c o) :=
  mkJ_sem ops f cfg hcfg fuel false cs o hwf

/-- **Compiler correctness (one fit).** The SQL meaning of the query object built for predicate `p` is `p`
evaluated directly on the stored objects. -/
theorem compile_correct (ops : NumOps α) (cfg : Cfg) (hcfg : cfg.junctionKeepsNot = true) (p : Pred α)
    (f : Fit α) (hwf : f.inst.WF = true) :
    sem ops f (compileTop cfg p) f.inst = evalDirect ops f p :=
  sem_compile ops f cfg hcfg _ hwf p

/-- **Exactly the fits satisfying the predicate**, in database order, with multiplicity. -/
theorem query_returns_exactly (ops : NumOps α) (cfg : Cfg) (hcfg : cfg.junctionKeepsNot = true) (p : Pred α)
    (db : List (Fit α)) (hdb : ∀ f ∈ db, f.inst.WF = true) :
    queryFits ops (compileTop cfg p) db = directFits ops p db :=
  List.filter_congr fun f hf => compile_correct ops cfg hcfg p f (hdb f hf)

theorem query_mem_iff (ops : NumOps α) (cfg : Cfg) (hcfg : cfg.junctionKeepsNot = true) (p : Pred α)
    (db : List (Fit α)) (hdb : ∀ f ∈ db, f.inst.WF = true) (f : Fit α) :
    f ∈ queryFits ops (compileTop cfg p) db ↔ f ∈ db ∧ evalDirect ops f p = true := by
  rw [query_returns_exactly ops cfg hcfg p db hdb]
  simp [directFits, List.mem_filter]

/-- **Each once.** The result is a sub-list of the fit table; with unique fit ids no fit is returned twice. -/
theorem query_each_once (ops : NumOps α) (q : Q α) (db : List (Fit α)) (hid : (db.map (·.id)).Nodup) :
    (queryFits ops q db).Sublist db ∧ ((queryFits ops q db).map (·.id)).Nodup := by
  have hs : (queryFits ops q db).Sublist db := List.filter_sublist
  exact ⟨hs, List.Nodup.sublist (hs.map _) hid⟩

/-- **Rows.** When the rows below `r` in the object table store the object `o` (decidable check `repCheck`, run
on the real table contents by the harness), the relational meaning of the SQL over the table is its meaning on
the object. -/
theorem rows_meaning_is_object_meaning [DecidableEq α] (ops : NumOps α) (T : List (Row α)) (f : Fit α) (q : Q α)
    (r : Row α) (o : Obj α) (h : repCheck T r o = true) :
    rsem ops T f q r = sem ops f q o :=
  rsem_eq_sem ops T f q r o h

/-- **Exactly the fits satisfying the predicate, on the tables**: evaluating the generated SQL relationally over
an object table that stores every fit's instance selects exactly the fits whose stored objects satisfy `p`. -/
theorem rows_query_returns_exactly [DecidableEq α] (ops : NumOps α) (cfg : Cfg) (hcfg : cfg.junctionKeepsNot = true)
    (p : Pred α) (T : List (Row α)) (db : List (StoredFit α))
    (hdb : ∀ sf ∈ db, stored T sf = true ∧ sf.fit.inst.WF = true) :
    rowsQueryFits ops T (compileTop cfg p) db = db.filter (fun sf => evalDirect ops sf.fit p) := by
  simp only [rowsQueryFits]
  apply List.filter_congr
  intro sf hsf
  obtain ⟨hst, hwf⟩ := hdb sf hsf
  simp only [stored] at hst
  cases hr : rootRow T sf.instanceId with
  | none => simp [hr] at hst
  | some r =>
    simp only [hr] at hst ⊢
    rw [rsem_eq_sem ops T sf.fit _ r sf.fit.inst hst]
    exact compile_correct ops cfg hcfg p sf.fit hwf

/-- The pinned commit (`junctionKeepsNot = false`: negated named queries are merged by name, which drops the
NOT) violates the property: `~(g.centre == 1) & (g.sigma == 2)` returns the fits with `centre == 1`. -/
theorem compile_refuted_not_merge :
    ∃ (p : Pred Nat) (db : List (Fit Nat)), (∀ f ∈ db, f.inst.WF = true) ∧
      (queryFits Witness.natOps (compileTop { junctionKeepsNot := false } p) db).map (·.id)
        ≠ (directFits Witness.natOps p db).map (·.id) :=
  ⟨Witness.notMerge, Witness.db, by decide +kernel, by decide +kernel⟩

/-- `order_by` returns the selected fits, each once (a permutation). -/
theorem order_by_perm (numLe : α → α → Bool) (keys : List OrderKey) (l : List (Fit α)) :
    (orderBy numLe keys l).Perm l :=
  perm_isort _ l

/-- `order_by(k₁).order_by(k₂)…` sorts lexicographically, the first key taking precedence, `reverse` descending,
NULL first: every earlier fit is `≤` every later one (for any total transitive order on numbers). -/
theorem order_by_sorted (numLe : α → α → Bool) (htotal : ∀ a b, numLe a b = true ∨ numLe b a = true)
    (htrans : ∀ a b c, numLe a b = true → numLe b c = true → numLe a c = true)
    (keys : List OrderKey) (l : List (Fit α)) :
    (orderBy numLe keys l).Pairwise (fun a b => lexLe numLe keys a b = true) :=
  sorted_isort _ (lexLe_trans numLe htotal htrans keys) (lexLe_total numLe keys) l

/-- first key takes precedence: a strict difference on the first key decides, later keys only break ties -/
theorem order_first_key_precedence (numLe : α → α → Bool) (k : OrderKey) (ks : List OrderKey) (x y : Fit α) :
    lexLe numLe (k :: ks) x y =
      (if keyR numLe k (x.attr k.attr) (y.attr k.attr) && !keyR numLe k (y.attr k.attr) (x.attr k.attr) then true
       else if keyR numLe k (y.attr k.attr) (x.attr k.attr) && !keyR numLe k (x.attr k.attr) (y.attr k.attr) then false
       else lexLe numLe ks x y) :=
  lexLe_cons numLe k ks x y

/-- `reverse=True` is the opposite order on that key -/
theorem order_reverse (numLe : α → α → Bool) (a : String) (u v : AVal α) :
    keyR numLe ⟨a, true⟩ u v = keyR numLe ⟨a, false⟩ v u := by
  simp [keyR]

/-- **Slicing.** `aggregator[a:b]` (any integers, negative or absent) on an aggregator that already has an
offset/limit window yields the offset/limit whose fits are the python slice `[a:b]` of the current fits. -/
theorem slice_correct {β} (cfg : Cfg) (h : cfg.sliceWindow = true) (w : Window) (full : List β)
    (a b : Option Int) :
    (sliceWindow cfg w (w.apply full).length a b).apply full = pySlice (w.apply full) a b :=
  sliceWindow_repaired cfg h w full a b

/-- chains of slices compose like python list slicing -/
theorem slice_chain_correct {β} (cfg : Cfg) (h : cfg.sliceWindow = true) (full : List β)
    (slices : List (Option Int × Option Int)) :
    (sliceChain cfg full {} slices).apply full = slices.foldl (fun cur ab => pySlice cur ab.1 ab.2) full := by
  simpa [Window.apply] using sliceChain_repaired cfg h full slices {}

/-- The pinned commit's limit arithmetic is wrong: 5 fits, `[1:3]` gives 1 fit. -/
theorem slice_refuted :
    ∃ (full : List Nat) (a b : Option Int),
      (sliceWindow { sliceWindow := false } {} full.length a b).apply full ≠ pySlice full a b :=
  ⟨[0, 1, 2, 3, 4], some 1, some 3, by decide +kernel⟩

/-- **The whole observable.** `aggregator.query(p).order_by(…)[a:b]….fits` is the python slice chain of the
sorted list of exactly the fits satisfying `p`. -/
theorem run_correct (ops : NumOps α) (numLe : α → α → Bool) (cfg : Cfg) (hj : cfg.junctionKeepsNot = true)
    (hs : cfg.sliceWindow = true) (db : List (Fit α)) (hdb : ∀ f ∈ db, f.inst.WF = true) (p : Pred α)
    (keys : List OrderKey) (slices : List (Option Int × Option Int)) :
    run ops numLe cfg db (some p) keys slices
      = slices.foldl (fun cur ab => pySlice cur ab.1 ab.2) (orderBy numLe keys (directFits ops p db)) := by
  simp only [run]
  rw [query_returns_exactly ops cfg hj p db hdb, slice_chain_correct cfg hs]

/-! ### non-vacuity: concrete databases and predicates meeting every hypothesis -/

open Witness

example : ∀ f ∈ db, f.inst.WF = true := by decide +kernel
example : (db.map (·.id)).Nodup := by decide +kernel
-- repaired: the NOT survives
example : (queryFits natOps (compileTop {} notMerge) db).map (·.id) = ["b", "e"] := by decide +kernel
example : (directFits natOps notMerge db).map (·.id) = ["b", "e"] := by decide +kernel
-- pinned: it is lost
example : (queryFits natOps (compileTop { junctionKeepsNot := false } notMerge) db).map (·.id) = ["a"] := by decide +kernel
-- a predicate using every kind of condition, with merges of `g.*` under Or and And and a negated junction
example : (queryFits natOps (compileTop {} mixed) db).map (·.id) = ["a", "b", "c", "e"] := by decide +kernel
example : (directFits natOps mixed db).map (·.id) = ["a", "b", "c", "e"] := by decide +kernel
example : (compileTop {} mixed).render
    = "&[|[~(F),g(|[centre(V),sigma(V)])],~(&[F,g(&[T,note(0)])])]" := by decide +kernel
-- the object table of a one-fit database, as the real code writes it (ids in insertion order)
example : stored Witness.table ⟨Witness.fit "a" 1 2 true, 1⟩ = true := by decide +kernel
example : (rowsQueryFits natOps Witness.table (compileTop {} notMerge)
    [⟨Witness.fit "a" 1 2 true, 1⟩, ⟨Witness.fit "b" 3 2 false, 2⟩]).map (·.fit.id) = ["b"] := by decide +kernel
-- merging depth `depth + 1` is enough: more fuel builds the same query
example : (compile {} 50 mixed).render = (compileTop {} mixed).render := by decide +kernel
-- ordering and slicing
example : (run natOps (fun a b => decide (a ≤ b)) {} db (some mixed) [⟨"is_complete", false⟩, ⟨"id", true⟩]
    [(some 1, some (-1))]).map (·.id) = ["e", "c"] := by decide +kernel
example : pySlice [0, 1, 2, 3, 4] (some 1) (some (-1)) = [1, 2, 3] := by decide +kernel
example : pySlice [0, 1, 2, 3, 4] (some (-2)) none = [3, 4] := by decide +kernel
example : (sliceWindow {} {} 5 (some 1) (some 3)).apply [0, 1, 2, 3, 4] = [1, 2] := by decide +kernel
example : (sliceWindow { sliceWindow := false } {} 5 (some 1) (some 3)).apply [0, 1, 2, 3, 4] = [1] := by decide +kernel

/-! ## stepped slices -/

/-- without a stepped slice `runStep` is `run` (all earlier theorems apply unchanged) -/
theorem runStep_none {α} (ops : NumOps α) (numLe : α → α → Bool) (cfg : Cfg) (db : List (Fit α))
    (p : Option (Pred α)) (keys : List OrderKey) (slices : List (Option Int × Option Int)) :
    runStep ops numLe cfg db p keys slices none = run ops numLe cfg db p keys slices := rfl

/-- every index a stepped slice produces lies inside the list: nothing is invented, and the `filterMap`
of `pySliceStep` drops nothing -/
theorem sliceIndices_lt (len : Nat) (start stop : Option Int) (step : Int) :
    ∀ i ∈ sliceIndices len start stop step, i < len := by
  unfold sliceIndices
  -- counting up stops below `e ≤ len`; counting down starts at `s ≤ len - 1` and stops above `e ≥ -1`
  split
  · exact indices_up_lt len _ _
      (getD_map_of (P := (· ≤ (len : Int))) (Int.le_refl _) (fun i => by split <;> omega) stop)
  · rename_i hneg
    exact indices_down_lt len _ _ step
      (getD_map_of (P := (· ≤ (len : Int) - 1)) (Int.le_refl _) (fun i => by split <;> omega) start)
      (getD_map_of (P := (-1 ≤ ·)) (Int.le_refl _) (fun i => by split <;> omega) stop) (Int.not_lt.mp hneg)

/-- a stepped slice returns members of the result it slices (a sub-multiset in general; with
`sliceIndices_lt`, exactly the fits at the produced positions) -/
theorem pySliceStep_subset {β} (l : List β) (a b : Option Int) (st : Int) :
    ∀ x ∈ pySliceStep l a b st, x ∈ l := by
  intro x hx
  simp only [pySliceStep, List.mem_filterMap] at hx
  obtain ⟨i, _, hi⟩ := hx
  exact List.mem_of_getElem? hi

theorem pySliceStep_reverse {β} (l : List β) : pySliceStep l none none (-1) = l.reverse := by
  unfold pySliceStep
  rw [sliceIndices_rev, List.filterMap_reverse, List.range_eq_range', filterMap_range'_getElem?, List.drop_zero,
    List.take_length]

/-- `query(p).order_by(k)[::-1].fits`-like: a last slice `[::-1]` returns the ordered result backwards, every
fit exactly once -/
theorem runStep_reverse {α} (ops : NumOps α) (numLe : α → α → Bool) (cfg : Cfg) (db : List (Fit α))
    (p : Option (Pred α)) (keys : List OrderKey) (slices : List (Option Int × Option Int)) :
    runStep ops numLe cfg db p keys slices (some (none, none, -1)) = (run ops numLe cfg db p keys slices).reverse := by
  simp only [runStep]
  exact pySliceStep_reverse _

/-- `l[a:b:1] = l[a:b]`: the stepped slice of the model agrees with the plain slice where both apply, so every
theorem about `pySlice` / `sliceChain` carries over -/
theorem pySliceStep_one {β} (l : List β) (start stop : Option Int) :
    pySliceStep l start stop 1 = pySlice l start stop := by
  unfold pySliceStep pySlice sliceIndices
  simp only [show ((1 : Int) > 0) by decide, if_true]
  rw [getD_map_normPos l.length start (d := 0) (d' := 0) rfl, getD_map_normPos l.length stop (d' := l.length) rfl]
  have hel := getD_normIdx_le l.length stop
  generalize (start.map (normIdx l.length)).getD 0 = s
  generalize (stop.map (normIdx l.length)).getD l.length = e at hel ⊢
  rw [indices_step_one l.length s e hel, filterMap_range'_getElem?]

example : pySliceStep [10, 11, 12, 13, 14] none none (-1) = [14, 13, 12, 11, 10] := by decide +kernel
example : pySliceStep [10, 11, 12, 13, 14] (some 4) (some 1) (-1) = [14, 13, 12] := by decide +kernel

/-! ## junctions hold their conditions in a set; the printed SQL

`mkJS` / `compileS` (`AFModel/QuerySql.lean`) are `_match_conditions` with the python set: equal conditions are
kept once, a single remaining condition is returned as it is, the conditions are listed sorted by their SQL string.
`same` is the equality used (`Q.same`, structural, for which the hypotheses below are proved; the driver also runs
equality of the SQL strings, as `AbstractCondition.__eq__` does, and reports whether both built the same query).
`sqlStr` / `fitSql` print the text from the query built here; the harness compares it with the text of the real
objects on every generated predicate. -/

theorem same_is_equality [DecidableEq α] (a b : Q α) : Q.same a b = true ↔ a = b :=
  ⟨Q.same_sound a b, fun h => h ▸ Q.same_refl a⟩

/-- **A junction's conditions are a set**, listed sorted: the same members as the conditions given, each once,
ordered by SQL string. -/
theorem junction_conditions_are_a_set [DecidableEq α] (key : Q α → String) (l : List (Q α)) :
    (∀ x, x ∈ canon Q.same key l ↔ x ∈ l) ∧ (canon Q.same key l).Nodup ∧
      (canon Q.same key l).Pairwise (fun a b => ¬ key b < key a) := by
  refine ⟨fun x => mem_canon Q.same_sound key, nodup_canon Q.same_refl key l, ?_⟩
  have := sorted_canon Q.same key l
  simpa [keyLe] using this

/-- **And, as a set.** `And(*cs)` with flattening, merging by name, de-duplication and collapse holds iff every
argument holds. -/
theorem and_set_correct (ops : NumOps α) (f : Fit α) (cfg : Cfg) (hcfg : cfg.junctionKeepsNot = true)
    {same : Q α → Q α → Bool} (hs : SoundEq same) (key : Q α → String) (fuel : Nat)
    (cs : List (Q α)) (o : Obj α) (hwf : o.WF = true) :
    sem ops f (mkJS cfg true same key fuel true cs) o = cs.all (fun c => sem ops f c o) :=
  mkJS_sem ops f cfg hcfg hs key fuel true cs o hwf

theorem or_set_correct (ops : NumOps α) (f : Fit α) (cfg : Cfg) (hcfg : cfg.junctionKeepsNot = true)
    {same : Q α → Q α → Bool} (hs : SoundEq same) (key : Q α → String) (fuel : Nat)
    (cs : List (Q α)) (o : Obj α) (hwf : o.WF = true) :
    sem ops f (mkJS cfg true same key fuel false cs) o = cs.any (fun c => sem ops f c o) :=
  mkJS_sem ops f cfg hcfg hs key fuel false cs o hwf

/-- **Idempotence under duplicates / order.** What a junction means depends only on *which* conditions it is given:
repeating a condition (`A & B & A`) or permuting them changes nothing, for `And` and for `Or`. -/
theorem junction_depends_on_set (ops : NumOps α) (f : Fit α) (cfg : Cfg) (hcfg : cfg.junctionKeepsNot = true)
    {same : Q α → Q α → Bool} (hs : SoundEq same) (key : Q α → String) (fuel : Nat) (isAnd : Bool)
    (cs₁ cs₂ : List (Q α)) (h : ∀ x, x ∈ cs₁ ↔ x ∈ cs₂) (o : Obj α) (hwf : o.WF = true) :
    sem ops f (mkJS cfg true same key fuel isAnd cs₁) o = sem ops f (mkJS cfg true same key fuel isAnd cs₂) o := by
  rw [mkJS_sem ops f cfg hcfg hs key fuel isAnd cs₁ o hwf, mkJS_sem ops f cfg hcfg hs key fuel isAnd cs₂ o hwf]
  exact jsem_of_mem_iff ops f h isAnd o

theorem junction_duplicate_idempotent (ops : NumOps α) (f : Fit α) (cfg : Cfg) (hcfg : cfg.junctionKeepsNot = true)
    {same : Q α → Q α → Bool} (hs : SoundEq same) (key : Q α → String) (fuel : Nat) (isAnd : Bool)
    (c : Q α) (cs : List (Q α)) (o : Obj α) (hwf : o.WF = true) :
    sem ops f (mkJS cfg true same key fuel isAnd (c :: c :: cs)) o = sem ops f (mkJS cfg true same key fuel isAnd (c :: cs)) o :=
  junction_depends_on_set ops f cfg hcfg hs key fuel isAnd _ _ (fun x => by simp) o hwf

theorem compile_set_correct (ops : NumOps α) (cfg : Cfg) (hcfg : cfg.junctionKeepsNot = true)
    {same : Q α → Q α → Bool} (hs : SoundEq same) (key : Q α → String) (p : Pred α)
    (f : Fit α) (hwf : f.inst.WF = true) :
    sem ops f (compileSTop cfg true same key p) f.inst = evalDirect ops f p :=
  sem_compileS ops f cfg hcfg hs key _ hwf p

/-- **Exactly the fits satisfying the predicate**, for the query object the SQL text is printed from. -/
theorem query_set_returns_exactly (ops : NumOps α) (cfg : Cfg) (hcfg : cfg.junctionKeepsNot = true)
    {same : Q α → Q α → Bool} (hs : SoundEq same) (key : Q α → String) (p : Pred α)
    (db : List (Fit α)) (hdb : ∀ f ∈ db, f.inst.WF = true) :
    queryFits ops (compileSTop cfg true same key p) db = directFits ops p db :=
  List.filter_congr fun f hf => compile_set_correct ops cfg hcfg hs key p f (hdb f hf)

/-- de-duplication cannot change which fits are selected: the set version and the list version agree -/
theorem query_set_agrees_with_list (ops : NumOps α) (cfg : Cfg) (hcfg : cfg.junctionKeepsNot = true)
    {same : Q α → Q α → Bool} (hs : SoundEq same) (key : Q α → String) (p : Pred α)
    (db : List (Fit α)) (hdb : ∀ f ∈ db, f.inst.WF = true) :
    queryFits ops (compileSTop cfg true same key p) db = queryFits ops (compileTop cfg p) db := by
  rw [query_set_returns_exactly ops cfg hcfg hs key p db hdb, query_returns_exactly ops cfg hcfg p db hdb]

/-- the tables joined in the printed text of `Named(n, c)` are exactly the tables its meaning (`sem`: `inTables
(contrib c)`) makes the child row survive -/
theorem named_text_joins_contrib (showNum : α → String) (n : String) (c : Q α) :
    ∃ parts, namedQ showNum n c = namedQueryText n (contrib c) parts := by
  cases c <;> exact ⟨_, rfl⟩

/-- `IN` / `NOT IN` in the text is the `inverted` flag of the named query, whose meaning is the complement -/
theorem named_text_not_in (showNum : α → String) (n : String) (inv : Bool) (c : Q α) :
    fitSql showNum (.named n inv c)
      = "SELECT id FROM fit WHERE instance_id " ++ (if inv then "NOT IN" else "IN") ++ " (" ++ namedQ showNum n c ++ ")" := by
  cases inv <;> rfl

/-- `~q` in the text: a named query flips `IN` / `NOT IN`; anything else is wrapped in `id NOT IN (…)`; undone by a
second `~` -/
theorem negation_text (showNum : α → String) (q : Q α) :
    fitSql showNum (invert q) =
      match q with
      | .named n inv c => fitSql showNum (.named n (!inv) c)
      | .inverted q' => fitSql showNum q'
      | q => "SELECT id FROM fit WHERE id NOT IN (" ++ fitSql showNum q ++ ")" := by
  cases q <;> first | rfl | (simp only [invert]; rw [fitSql])

/-- the text of a junction's `fit_query` depends only on which conjuncts there are, not on the order a python set
lists them in (the harness sorts the conjuncts of the real text for the same reason) -/
theorem junction_text_order_irrelevant (isAnd : Bool) (fqs₁ fqs₂ : List String) (h : fqs₁.Perm fqs₂) :
    junctionFitText isAnd fqs₁ = junctionFitText isAnd fqs₂ := by
  have hp := sortStrs_perm (h.map (fun s => "id IN (" ++ s ++ ")"))
  unfold junctionFitText
  rw [hp]

example : SoundEq (fun a b : Q Nat => Q.same a b) := Q.same_sound
-- the repeated comparison is kept once (list version: `g(&[centre(&[V,V]),sigma(V)])`)
example : (compileSTop {} true Q.same Q.render dupPred).render = "g(&[centre(V),sigma(V)])" := by decide +kernel
example : (compileTop {} dupPred).render = "g(&[centre(&[V,V]),sigma(V)])" := by decide +kernel
-- `A & A` is `A`
example : (compileSTop {} true Q.same Q.render
    ((.and (.fitc (.boolAttr "is_complete")) (.fitc (.boolAttr "is_complete"))) : Pred Nat)).render = "F" := by
  decide +kernel
example : (queryFits natOps (compileSTop {} true Q.same Q.render dupPred) db).map (·.id) = ["a"] := by decide +kernel
example : (queryFits natOps (compileSTop {} true Q.same Q.render mixed) db).map (·.id) = ["a", "b", "c", "e"] := by
  decide +kernel
example : (canon Q.same Q.render ([Q.type "b", Q.isNone, Q.type "b", Q.type "a"] : List (Q Nat))).map Q.render
    = ["0", "T", "T"] := by decide +kernel
example : junctionFitText true ["x", "y"] = junctionFitText true ["y", "x"] :=
  junction_text_order_irrelevant true _ _ (List.Perm.swap "y" "x" [])

/-! ### bare paths as predicates (`agg.model.g`: the attribute exists) -/

/-- **Bare path.** `aggregator.model.a.b` used as a predicate selects the fits whose instance has `a.b`. -/
theorem bare_path_correct {α : Type} (ops : NumOps α) (f : Fit α) (hwf : f.inst.WF = true) (n : String) (ns : List String) :
    sem ops f (pathQ (n :: ns) .any) f.inst = (f.inst.follow (n :: ns)).isSome := by
  rw [path_comparison_correct ops f hwf n ns .any]
  cases f.inst.follow (n :: ns) <;> simp [leafHolds]

/-- The pinned commit (`bare = false`: a named query without other condition is merged under `Or` and its missing
condition skipped) violates the property: `g | (g.centre == 1)` returns only the fits with `centre == 1`.
(`compile_set_correct` is the positive statement, for `bare = true`, fixes/C10-bare-path-in-junction.patch.) -/
theorem compile_refuted_bare_or :
    ∃ (p : Pred Nat) (db : List (Fit Nat)), (∀ f ∈ db, f.inst.WF = true) ∧
      (queryFits Witness.natOps (compileSTop {} false Q.same Q.render p) db).map (·.id)
        ≠ (directFits Witness.natOps p db).map (·.id) :=
  ⟨Witness.bareOr, Witness.db, by decide +kernel, by decide +kernel⟩

-- repaired: every fit has `g`; pinned: the alternative is lost
example : (queryFits natOps (compileSTop {} true Q.same Q.render bareOr) db).map (·.id) = ["a", "b", "c", "d", "e"] := by
  decide +kernel
example : (directFits natOps bareOr db).map (·.id) = ["a", "b", "c", "d", "e"] := by decide +kernel
example : (queryFits natOps (compileSTop {} false Q.same Q.render bareOr) db).map (·.id) = ["a", "c"] := by
  decide +kernel
example : (compileSTop {} true Q.same Q.render bareOr).render = "|[g(&[]),g(centre(V))]" := by decide +kernel
-- under `&` the bare query is merged (its missing condition is an empty conjunction)
example : (compileSTop {} true Q.same Q.render
    (.and (.path "g" [] .any) (.path "g" ["centre"] (.num .eq 1)) : Pred Nat)).render = "g(centre(V))" := by decide +kernel

end AF.C10
