import AFModel.Gate
import AFModel.FloatOps
import AFModel.GateComp
import AFModel.GateRoute
import AFProofs.Lemmas.GateComp

/-!
# C03 — limits and assertions gate every instance

`gate` (`AFModel/Gate.lean`) models `instance_from_vector` on a list of assertions, `gateTree` on a
tree of them: these the extractor collects, validated against the program by the property oracle
(`harness/c03.py`). `gateComp` computes them from the composition, `gateRoute` covers the other routes.
All for any assertions, composition, vector and value type with comparisons `lt`/`le`.
-/

namespace AF.C03
open AF

variable {V : Type} [Inhabited V]
set_option linter.unusedSectionVars false

theorem limitsOk_cons (ops : Ops V) (l : V × V) (ls : List (V × V)) (x : V) (xs : List V) :
    limitsOk ops (l :: ls) (x :: xs) = (within ops l x && limitsOk ops ls xs) := rfl

theorem limitsOk_iff (ops : Ops V) : ∀ (lims : List (V × V)) (v : List V), lims.length = v.length →
    (limitsOk ops lims v = true ↔
      ∀ (i : Nat) (h₁ : i < lims.length) (h₂ : i < v.length), within ops lims[i] v[i] = true) := by
  intro lims
  induction lims with
  | nil => exact fun v _ => ⟨fun _ i h₁ => absurd h₁ (Nat.not_lt_zero i), fun _ => by cases v <;> rfl⟩
  | cons l ls ih =>
    rintro (_ | ⟨x, xs⟩) h
    · nomatch h
    rw [limitsOk_cons, Bool.and_eq_true, ih xs (Nat.succ.inj h)]
    constructor
    · rintro ⟨h0, hr⟩ (_ | j) h₁ h₂
      · exact h0
      · exact hr j (Nat.lt_of_succ_lt_succ h₁) (Nat.lt_of_succ_lt_succ h₂)
    · exact fun hall => ⟨hall 0 (Nat.zero_lt_succ _) (Nat.zero_lt_succ _),
        fun i h₁ h₂ => hall (i + 1) (Nat.succ_lt_succ h₁) (Nat.succ_lt_succ h₂)⟩

/-- **Gate.** An instance is produced for a vector iff the length is right, every value lies
inside its prior's limits and every assertion is true of the values — and then it is the instance
of C01. -/
theorem gate_ok_iff (ops : Ops V) (t : Node V) (lims : List (V × V)) (asserts : List (Asrt V))
    (v : List V) (i : Inst V) :
    gate ops t lims asserts v false = .ok i ↔
      v.length = count t ∧ limitsOk ops lims v = true ∧
      (∀ a ∈ asserts, evalA ops (valOf (argsOfVector t v)) a = true) ∧
      i = instFromVector ops t v := by
  rw [← List.all_eq_true]
  unfold gate
  by_cases hl : v.length = count t
  · cases limitsOk ops lims v
    · simp [hl]
    · cases asserts.all (evalA ops (valOf (argsOfVector t v))) <;> simp [hl, eq_comm]
  · simp [hl]

theorem gate_fit_iff (ops : Ops V) (t : Node V) (lims : List (V × V)) (asserts : List (Asrt V)) (v : List V) :
    gate ops t lims asserts v false = .error .fit ↔
      v.length = count t ∧ limitsOk ops lims v = true ∧
      asserts.all (evalA ops (valOf (argsOfVector t v))) = false := by
  unfold gate
  by_cases hl : v.length = count t
  · cases limitsOk ops lims v
    · simp [hl]
    · cases asserts.all (evalA ops (valOf (argsOfVector t v))) <;> simp [hl]
  · simp [hl]

/-- a value outside its limits is reported as the prior-limit exception (a fit exception) … -/
theorem gate_limit_error (ops : Ops V) (t : Node V) (lims asserts) (v : List V)
    (hl : v.length = count t) (h : limitsOk ops lims v = false) :
    gate ops t lims asserts v false = .error .priorLimit := by
  simp [gate, hl, h]

/-- … and a failed assertion as the fit exception; nothing else can be raised by the gate. -/
theorem gate_assertion_error (ops : Ops V) (t : Node V) (lims) (asserts : List (Asrt V)) (v : List V)
    (hl : v.length = count t) (h : limitsOk ops lims v = true) (a : Asrt V) (ha : a ∈ asserts)
    (hf : evalA ops (valOf (argsOfVector t v)) a = false) :
    gate ops t lims asserts v false = .error .fit :=
  (gate_fit_iff ops t lims asserts v).mpr ⟨hl, h, List.all_eq_false.mpr ⟨a, ha, by simp [hf]⟩⟩

/-- When the caller asks to ignore limits and assertions an instance is always produced. -/
theorem gate_ignore (ops : Ops V) (t : Node V) (lims asserts) (v : List V) (hl : v.length = count t) :
    gate ops t lims asserts v true = .ok (instFromVector ops t v) := by
  simp [gate, hl]

def natOps : Ops Nat where
  bin := fun _ a b => a + b
  un := fun _ a => a
  nameLe := fun a b => decide (a ≤ b)
  lt := fun a b => decide (a < b)
  le := fun a b => decide (a ≤ b)

def t₀ : Node Nat := .coll [("g", .model "P2" ["a", "b"] [("a", .prior 5), ("b", .prior 2)])]
/-- `b + b < a`, chained `… <= 40` -/
def a₀ : Asrt Nat :=
  chainCmp (buildCmp (.arith .add [] (.prior 2) (.prior 2)) .lt (.prior 5)) .le (.const 40)

example : gate natOps t₀ [(0, 10), (0, 50)] [a₀] [3, 7] false = .ok (instFromVector natOps t₀ [3, 7]) := by rfl
example : gate natOps t₀ [(0, 10), (0, 50)] [a₀] [3, 6] false = .error .fit := by rfl
example : gate natOps t₀ [(0, 10), (0, 50)] [a₀] [11, 30] false = .error .priorLimit := by rfl
example : gate natOps t₀ [(0, 10), (0, 50)] [a₀] [11, 3] true = .ok (instFromVector natOps t₀ [11, 3]) := by rfl
example : gate natOps t₀ [(0, 10), (0, 50)] [a₀] [3] false = .error .length := by rfl

/-! tests on IEEE doubles (compiler-evaluated): NaN is never inside limits; limits are inclusive -/
#guard within floatOps (0.0, 1.0) (0.0 / 0.0) == false
#guard within floatOps (0.0, 1.0) 1.0 && within floatOps (0.0, 1.0) 0.0

/-! ## NaN: an unordered value never passes the gate

The only facts about IEEE doubles used: every `<=` / `<` with a NaN operand is false. For *any* value
type with an element `nan` obeying these two laws (for `Float`: `floatOps` and `0.0 / 0.0`, the law
itself being IEEE 754, tested by the `#guard`s above and exercised by generated NaN vectors), a vector
holding `nan` at any position is rejected with the prior-limit exception, and a comparison assertion
with a `nan` operand is false. -/

/-- `le`/`lt` treat `nan` as unordered -/
structure NanLaw (ops : Ops V) (nan : V) : Prop where
  le_left : ∀ x, ops.le nan x = false
  le_right : ∀ x, ops.le x nan = false
  lt_left : ∀ x, ops.lt nan x = false
  lt_right : ∀ x, ops.lt x nan = false

theorem within_nan (ops : Ops V) (nan : V) (h : NanLaw ops nan) (l : V × V) : within ops l nan = false := by
  simp [within, h.le_left, h.le_right]

theorem limitsOk_nan (ops : Ops V) (nan : V) (h : NanLaw ops nan) : ∀ (lims : List (V × V)) (v : List V),
    lims.length = v.length → nan ∈ v → limitsOk ops lims v = false := by
  intro lims v hl hm
  obtain ⟨i, hi, rfl⟩ := List.getElem_of_mem hm
  refine Bool.eq_false_iff.mpr fun hok => ?_
  have := (limitsOk_iff ops lims v hl).mp hok i (hl ▸ hi) hi
  rw [within_nan ops _ h] at this
  exact Bool.false_ne_true this

/-- **a vector holding NaN anywhere is rejected** (with the prior-limit exception, before any
assertion is looked at) unless the caller asked to ignore limits -/
theorem gate_rejects_nan (ops : Ops V) (nan : V) (h : NanLaw ops nan) (t : Node V) (lims : List (V × V))
    (asserts : List (Asrt V)) (v : List V) (hl : v.length = count t) (hlim : lims.length = v.length)
    (hm : nan ∈ v) : gate ops t lims asserts v false = .error .priorLimit :=
  gate_limit_error ops t lims asserts v hl (limitsOk_nan ops nan h lims v hlim hm)

/-- a comparison one of whose operands evaluates to NaN is false (so the fit exception is raised when
limits are wide enough to let the NaN arise from arithmetic on in-limit values) -/
theorem evalA_nan_operand (ops : Ops V) (nan : V) (h : NanLaw ops nan) (ρ : Nat → Inst V) (strict : Bool)
    (l g : Node V) (hn : operandVal ops ρ l = some nan ∨ operandVal ops ρ g = some nan) :
    evalA ops ρ (.cmp strict l g) = false := by
  unfold evalA
  rcases hn with hn | hn
  · rw [hn]
    cases hg : operandVal ops ρ g with
    | none => rfl
    | some b => cases strict <;> simp [h.le_left, h.lt_left]
  · rw [hn]
    cases hl : operandVal ops ρ l with
    | none => rfl
    | some a => cases strict <;> simp [h.le_right, h.lt_right]

/-- non-vacuity: numbers with one unordered element -/
def optOps : Ops (Option Nat) where
  bin := fun _ a b => match a, b with | some x, some y => some (x + y) | _, _ => none
  un := fun _ a => a
  nameLe := fun a b => decide (a ≤ b)
  lt := fun a b => match a, b with | some x, some y => decide (x < y) | _, _ => false
  le := fun a b => match a, b with | some x, some y => decide (x ≤ y) | _, _ => false

theorem optOps_nanLaw : NanLaw optOps none :=
  ⟨fun _ => rfl, fun x => by cases x <;> rfl, fun _ => rfl, fun x => by cases x <;> rfl⟩

def tOpt : Node (Option Nat) := .coll [("g", .model "P2" ["a", "b"] [("a", .prior 5), ("b", .prior 2)])]
example : gate optOps tOpt [(some 0, some 10), (some 0, some 50)] [] [some 3, none] false = .error .priorLimit :=
  gate_rejects_nan optOps none optOps_nanLaw tOpt _ [] _ rfl rfl (by simp)
example : gate optOps tOpt [(some 0, some 10), (some 0, some 50)] [] [some 3, some 7] false
    = .ok (instFromVector optOps tOpt [some 3, some 7]) := by rfl

mutual
theorem checkTree_eq_all (ops : Ops V) (ρ : Nat → Inst V) : ∀ (t : ATree V),
    checkTree ops ρ t = t.flatten.all (evalA ops ρ)
  | .node asserts children => by
      simp only [checkTree, ATree.flatten, List.all_append, checkTrees_eq_all ops ρ children]
theorem checkTrees_eq_all (ops : Ops V) (ρ : Nat → Inst V) : ∀ (ts : List (ATree V)),
    checkTrees ops ρ ts = (flattenTrees ts).all (evalA ops ρ)
  | [] => by simp [checkTrees, flattenTrees]
  | t :: rest => by
      simp only [checkTrees, flattenTrees, List.all_append, checkTree_eq_all ops ρ t,
        checkTrees_eq_all ops ρ rest]
end

/-- **Assertions attached anywhere gate the instance**: the recursive check of
`instance_for_arguments` over the tree of prior-model nodes is exactly the conjunction of *all*
assertions of *all* nodes, at any nesting level — so `gate_ok_iff` applies with
`asserts := tr.flatten`. -/
theorem gateTree_eq_gate (ops : Ops V) (t : Node V) (lims : List (V × V)) (tr : ATree V)
    (v : List V) (ignore : Bool) :
    gateTree ops t lims tr v ignore = gate ops t lims tr.flatten v ignore := by
  rw [gateTree, gate, checkTree_eq_all]

theorem mem_flatten_of_child (asserts : List (Asrt V)) (children : List (ATree V)) (c : ATree V)
    (hc : c ∈ children) (a : Asrt V) (ha : a ∈ c.flatten) :
    a ∈ (ATree.node asserts children).flatten := by
  obtain ⟨s, t, rfl⟩ := List.append_of_mem hc
  simp [ATree.flatten, flattenTrees_append, flattenTrees, ha]

example : gateTree natOps t₀ [(0, 10), (0, 50)] (.node [] [.node [a₀] []]) [3, 6] false = .error .fit := by rfl
example : gateTree natOps t₀ [(0, 10), (0, 50)] (.node [] [.node [a₀] []]) [3, 7] false
    = .ok (instFromVector natOps t₀ [3, 7]) := by rfl

/-! ## the gate computed from the composition (`AFModel/GateComp.lean`)

`ANode` carries the assertions where `add_assertion` put them; `ANode.trees` is the recursion of
`instance_for_arguments`; `Reach c d` says that building `c` calls `instance_for_arguments` on `d`.
`mem_trees_iff` (by induction over the composition) says that no reachable node's assertion is skipped;
all are evaluated under the one binding `valOf (argsOfVector c.erase v)`. -/

theorem gateComp_eq_gate (ops : Ops V) (c : ANode V) (lims : List (V × V)) (v : List V) (ignore : Bool) :
    gateComp ops c lims v ignore = gate ops c.erase lims (flattenTrees c.trees) v ignore := by
  rw [gateComp, gateTree_eq_gate, ATree.flatten, List.nil_append]

/-- **Gate, computed from the model.** An instance is produced iff the length is right, every value
lies inside its prior's limits and EVERY assertion attached at ANY node the instantiation reaches is
true of the values; it is then the instance of C01 for the composition without its assertions. -/
theorem gateComp_ok_iff (ops : Ops V) (c : ANode V) (lims : List (V × V)) (v : List V) (i : Inst V) :
    gateComp ops c lims v false = .ok i ↔
      v.length = count c.erase ∧ limitsOk ops lims v = true ∧
      (∀ d, Reach c d → ∀ a ∈ d.asserts, evalA ops (valOf (argsOfVector c.erase v)) a = true) ∧
      i = instFromVector ops c.erase v := by
  simp only [gateComp_eq_gate, gate_ok_iff, forall_mem_trees_iff]

/-- one false assertion at one reachable node is enough for the fit exception -/
theorem gateComp_assertion_error (ops : Ops V) (c d : ANode V) (lims : List (V × V)) (v : List V)
    (hl : v.length = count c.erase) (h : limitsOk ops lims v = true) (hr : Reach c d) (a : Asrt V)
    (ha : a ∈ d.asserts) (hf : evalA ops (valOf (argsOfVector c.erase v)) a = false) :
    gateComp ops c lims v false = .error .fit := by
  rw [gateComp_eq_gate]
  exact gate_assertion_error ops c.erase lims _ v hl h a ((mem_trees_iff c a).mpr ⟨d, hr, ha⟩) hf

theorem gateComp_limit_error (ops : Ops V) (c : ANode V) (lims : List (V × V)) (v : List V)
    (hl : v.length = count c.erase) (h : limitsOk ops lims v = false) :
    gateComp ops c lims v false = .error .priorLimit := by
  rw [gateComp_eq_gate]; exact gate_limit_error ops c.erase lims _ v hl h

theorem gateComp_ignore (ops : Ops V) (c : ANode V) (lims : List (V × V)) (v : List V)
    (hl : v.length = count c.erase) :
    gateComp ops c lims v true = .ok (instFromVector ops c.erase v) := by
  rw [gateComp_eq_gate]; exact gate_ignore ops c.erase lims _ v hl

/-- a component that is reachable twice is checked twice — under the same binding, so the second
check cannot decide differently -/
theorem check_twice_same (ops : Ops V) (ρ : Nat → Inst V) (c : ANode V) :
    checkTrees ops ρ (c.trees ++ c.trees) = checkTrees ops ρ c.trees := by
  rw [checkTrees_eq_all, checkTrees_eq_all, flattenTrees_append, List.all_append, Bool.and_self]

theorem gateCompTrace_eq (ops : Ops V) (c : ANode V) (lims : List (V × V)) (v : List V)
    (hl : v.length = count c.erase) (hlim : limitsOk ops lims v = true) :
    gateCompTrace ops c lims v false = traceTrees ops (valOf (argsOfVector c.erase v)) c.trees := by
  simp [gateCompTrace, hl, hlim]

/-- when an instance is produced `check_assertions` ran at every node of the recursion tree, once per
occurrence, parent before children, and every verdict was true -/
theorem trace_complete_of_ok (ops : Ops V) (c : ANode V) (lims : List (V × V)) (v : List V) (i : Inst V)
    (h : gateComp ops c lims v false = .ok i) :
    gateCompTrace ops c lims v false = fullTraces ops (valOf (argsOfVector c.erase v)) c.trees ∧
    ∀ vs ∈ gateCompTrace ops c lims v false, hasFalse vs = false := by
  rw [gateComp_eq_gate, gate_ok_iff, ← List.all_eq_true, ← checkTrees_eq_all] at h
  obtain ⟨hl, hlim, hc, -⟩ := h
  rw [gateCompTrace_eq ops c lims v hl hlim]
  exact traceTrees_of_check ops _ c.trees hc

/-- when the fit exception is raised the walk ended at the first node with a failed assertion: every
node visited before it passed, nothing after it was visited -/
theorem trace_ends_at_failure (ops : Ops V) (c : ANode V) (lims : List (V × V)) (v : List V)
    (h : gateComp ops c lims v false = .error .fit) :
    ∃ pre last, gateCompTrace ops c lims v false = pre ++ [last] ∧ hasFalse last = true ∧
      ∀ vs ∈ pre, hasFalse vs = false := by
  rw [gateComp_eq_gate, gate_fit_iff, ← checkTrees_eq_all] at h
  obtain ⟨hl, hlim, hc⟩ := h
  rw [gateCompTrace_eq ops c lims v hl hlim]
  exact traceTrees_of_fail ops _ c.trees hc

/-- ignoring, a wrong length or a value outside its limits: no assertion is looked at -/
theorem trace_empty_when_not_checked (ops : Ops V) (c : ANode V) (lims : List (V × V)) (v : List V) :
    gateCompTrace ops c lims v true = [] ∧
    (limitsOk ops lims v = false → gateCompTrace ops c lims v false = []) := by
  constructor
  · simp [gateCompTrace]
  · intro h; simp [gateCompTrace, h]

/-! non-vacuity: a collection holding a model with an assertion of its own, an assertion on the
collection, and the same model a second time -/
def m₁ : ANode Nat :=
  .model "P2" ["a", "b"] [buildCmp (.prior 2) .lt (.prior 5)] [("a", .leaf (.prior 5)), ("b", .leaf (.prior 2))]
def c₁ : ANode Nat := .coll [buildCmp (.prior 5) .le (.const 9)] [("g", m₁), ("h", m₁), ("k", .leaf (.const 4))]

example : gateComp natOps c₁ [(0, 10), (0, 50)] [3, 7] false = .ok (instFromVector natOps c₁.erase [3, 7]) := by rfl
example : gateComp natOps c₁ [(0, 10), (0, 50)] [7, 3] false = .error .fit := by rfl
example : gateComp natOps c₁ [(0, 10), (0, 50)] [4, 10] false = .error .fit := by rfl
example : gateComp natOps c₁ [(0, 10), (0, 50)] [11, 30] false = .error .priorLimit := by rfl
example : gateComp natOps c₁ [(0, 10), (0, 50)] [7, 3] true = .ok (instFromVector natOps c₁.erase [7, 3]) := by rfl
example : gateCompTrace natOps c₁ [(0, 10), (0, 50)] [3, 7] false = [[true], [true], [true]] := by decide +kernel
example : gateCompTrace natOps c₁ [(0, 10), (0, 50)] [7, 3] false = [[true], [false]] := by decide +kernel
example : gateCompTrace natOps c₁ [(0, 10), (0, 50)] [4, 10] false = [[false]] := by decide +kernel
example : Reach c₁ m₁ := Reach.step (by simp [c₁, ANode.kids]) (Reach.refl _)

/-! ## routes and flags (`AFModel/GateRoute.lean`) -/

/-- **every route is the gate**: on the limits, or on none for the routes that never look at them, and
on the assertions of the trees the route walks -/
theorem gateRoute_eq_gate (ops : Ops V) (r : Route) (c : ANode V) (lims : List (V × V)) (v : List V)
    (ignore : Bool) :
    gateRoute ops r c lims v ignore =
      gate ops c.erase (if r.checksLimits false then lims else [])
        (flattenTrees (if r.checksRoot then c.trees else rootless c.trees)) v ignore := by
  have hlim : (r.checksLimits ignore && !limitsOk ops lims v) =
      (!ignore && !limitsOk ops (if r.checksLimits false then lims else []) v) := by
    cases r <;> cases ignore <;> rfl
  rw [gateRoute, gate, hlim, checkTrees_eq_all]

/-- the routes that check limits and the root (`instance_from_vector`, `instance_from_unit_vector`,
`instance_from_prior_medians`, `random_instance`) are the gate of `gateComp_ok_iff` on the physical
values -/
theorem route_eq_gateComp (ops : Ops V) (r : Route) (c : ANode V) (lims : List (V × V)) (v : List V)
    (ignore : Bool) (hr : r.checksRoot = true) (hl : r.checksLimits false = true) :
    gateRoute ops r c lims v ignore = gateComp ops c lims v ignore := by
  rw [gateRoute_eq_gate, gateComp_eq_gate, hr, hl]; rfl

theorem route_vector (ops : Ops V) (c : ANode V) (lims : List (V × V)) (v : List V) (ignore : Bool) :
    gateRoute ops .vector c lims v ignore = gateComp ops c lims v ignore :=
  route_eq_gateComp ops .vector c lims v ignore rfl rfl

theorem route_unit_vector (ops : Ops V) (c : ANode V) (lims : List (V × V)) (v : List V) (ignore : Bool) :
    gateRoute ops .unitVector c lims v ignore = gateComp ops c lims v ignore :=
  route_eq_gateComp ops .unitVector c lims v ignore rfl rfl

theorem route_medians (ops : Ops V) (c : ANode V) (lims : List (V × V)) (v : List V) (ignore : Bool) :
    gateRoute ops .medians c lims v ignore = gateComp ops c lims v ignore :=
  route_eq_gateComp ops .medians c lims v ignore rfl rfl

theorem route_random (ops : Ops V) (c : ANode V) (lims : List (V × V)) (v : List V) (ignore : Bool) :
    gateRoute ops .random c lims v ignore = gateComp ops c lims v ignore :=
  route_eq_gateComp ops .random c lims v ignore rfl rfl

/-- `instance_for_arguments` never looks at the limits: it is the gate with no limits at all -/
theorem route_arguments (ops : Ops V) (c : ANode V) (lims : List (V × V)) (v : List V) (ignore : Bool) :
    gateRoute ops .arguments c lims v ignore = gateComp ops c [] v ignore := by
  rw [gateRoute_eq_gate, gateComp_eq_gate]; rfl

/-- so an instance comes out of `instance_for_arguments` iff every assertion of every reachable node
holds (whatever the limits) -/
theorem route_arguments_ok_iff (ops : Ops V) (c : ANode V) (lims : List (V × V)) (v : List V) (i : Inst V) :
    gateRoute ops .arguments c lims v false = .ok i ↔
      v.length = count c.erase ∧
      (∀ d, Reach c d → ∀ a ∈ d.asserts, evalA ops (valOf (argsOfVector c.erase v)) a = true) ∧
      i = instFromVector ops c.erase v := by
  rw [route_arguments, gateComp_ok_iff]
  simp [limitsOk]

/-- **Ignoring always yields an instance, on every route** (`ignore_prior_limits=True` of the vector,
unit-vector, medians and random routes; `ignore_assertions=True` of the argument routes). -/
theorem route_ignore (ops : Ops V) (r : Route) (c : ANode V) (lims : List (V × V)) (v : List V)
    (hl : v.length = count c.erase) :
    gateRoute ops r c lims v true = .ok (instFromVector ops c.erase v) := by
  rw [gateRoute_eq_gate]; exact gate_ignore ops c.erase _ _ v hl

/-- `instance_from_path_arguments` / `instance_from_prior_name_arguments` call
`_instance_for_arguments` on the root directly. PARTIAL: they gate like `instance_for_arguments` only
under the guard that no assertion is attached to the root itself … -/
theorem route_path_partial (ops : Ops V) (c : ANode V) (lims : List (V × V)) (v : List V) (ignore : Bool)
    (guard : c.asserts = []) :
    gateRoute ops .pathArguments c lims v ignore = gateRoute ops .arguments c lims v ignore := by
  rw [gateRoute_eq_gate, gateRoute_eq_gate]
  show gate ops c.erase [] (flattenTrees (rootless c.trees)) v ignore =
    gate ops c.erase [] (flattenTrees c.trees) v ignore
  rw [flattenTrees_trees c, guard]; rfl

/-- … assertions below the root are enforced on that route too … -/
theorem route_path_below_root (ops : Ops V) (c k d : ANode V) (lims : List (V × V)) (v : List V)
    (hl : v.length = count c.erase) (hk : k ∈ c.kids) (hr : Reach k d) (a : Asrt V) (ha : a ∈ d.asserts)
    (hf : evalA ops (valOf (argsOfVector c.erase v)) a = false) :
    gateRoute ops .pathArguments c lims v false = .error .fit := by
  rw [gateRoute_eq_gate]
  exact gate_assertion_error ops c.erase _ _ v hl rfl a ((mem_rootless_iff c a).mpr ⟨k, hk, d, hr, ha⟩) hf

/-- … and the unguarded statement is REFUTED: a model whose only assertion sits on the root yields an
instance on the path route for values that violate it (known finding `C03-path-route-root-assertions`). -/
theorem route_path_refuted :
    ∃ (c : ANode Nat) (v : List Nat) (a : Asrt Nat), a ∈ c.asserts ∧
      evalA natOps (valOf (argsOfVector c.erase v)) a = false ∧
      gateRoute natOps .pathArguments c [] v false = .ok (instFromVector natOps c.erase v) ∧
      gateRoute natOps .arguments c [] v false = .error .fit :=
  ⟨m₁, [7, 3], buildCmp (.prior 2) .lt (.prior 5), by simp [m₁, ANode.asserts], by rfl, by rfl, by rfl⟩

example : gateRoute natOps .unitVector c₁ [(0, 10), (0, 50)] [11, 30] false = .error .priorLimit := by rfl
example : gateRoute natOps .arguments c₁ [(0, 1), (0, 1)] [3, 7] false = .ok (instFromVector natOps c₁.erase [3, 7]) := by rfl
example : gateRoute natOps .vector c₁ [(0, 1), (0, 1)] [3, 7] false = .error .priorLimit := by rfl
example : gateRoute natOps .pathArguments c₁ [(0, 10), (0, 50)] [7, 3] false = .error .fit := by rfl
example : gateRoute natOps .pathArguments c₁ [(0, 10), (0, 50)] [4, 10] false = .ok (instFromVector natOps c₁.erase [4, 10]) := by rfl
example : gateRoute natOps .random c₁ [(0, 10), (0, 50)] [70, 3] true = .ok (instFromVector natOps c₁.erase [70, 3]) :=
  route_ignore natOps .random c₁ _ _ rfl

/-! ## comparison operators on objects and Python numbers, reflected operands, two-link chains -/

/-- The verdict of a comparison *is* the inequality on the numbers its operands evaluate to
(operands: parameters, constants, arithmetic expressions at any nesting — `operandVal` is C01's
`instW`, so shared parameters are consistent by construction). -/
theorem evalA_cmp (ops : Ops V) (ρ : Nat → Inst V) (strict : Bool) (l g : Node V) (a b : V)
    (hl : operandVal ops ρ l = some a) (hg : operandVal ops ρ g = some b) :
    evalA ops ρ (.cmp strict l g) = (if strict then ops.lt a b else ops.le a b) := by
  simp [evalA, hl, hg]

theorem evalA_and (ops : Ops V) (ρ : Nat → Inst V) (x y : Asrt V) :
    evalA ops ρ (.and x y) = (evalA ops ρ x && evalA ops ρ y) := rfl

theorem evalA_lit (ops : Ops V) (ρ : Nat → Inst V) (b : Bool) : evalA ops ρ (.lit b) = b := rfl

theorem evalA_buildCmp (ops : Ops V) (ρ : Nat → Inst V) (x y : Node V) (op : CmpOp) (a b : V)
    (hx : operandVal ops ρ x = some a) (hy : operandVal ops ρ y = some b) :
    evalA ops ρ (buildCmp x op y) = cmpNum ops a op b := by
  cases op
  · exact evalA_cmp ops ρ true x y a b hx hy
  · exact evalA_cmp ops ρ false x y a b hx hy
  · exact evalA_cmp ops ρ true y x b a hy hx
  · exact evalA_cmp ops ρ false y x b a hy hx

theorem chainCmp_buildCmp (x y z : Node V) (op₁ op₂ : CmpOp) :
    chainCmp (buildCmp x op₁ y) op₂ z =
      .and (buildCmp x op₁ y) (buildCmp (if op₁.ascending = op₂.ascending then y else x) op₂ z) := by
  unfold chainCmp buildCmp
  cases op₁.ascending <;> cases op₂.ascending <;> rfl

/-- **Chained comparisons**, same direction: `(x op₁ y) op₂ z` denotes `x op₁ y ∧ y op₂ z`. -/
theorem chain_same_direction (ops : Ops V) (ρ : Nat → Inst V) (x y z : Node V) (op₁ op₂ : CmpOp)
    (h : op₁.ascending = op₂.ascending) :
    evalA ops ρ (chainCmp (buildCmp x op₁ y) op₂ z) =
      (evalA ops ρ (buildCmp x op₁ y) && evalA ops ρ (buildCmp y op₂ z)) := by
  rw [chainCmp_buildCmp, if_pos h]; rfl

/-- What the code does for a chain that changes direction — recorded as it is: `(x < y) > z`
continues from `x`, not from `y` (reflected comparisons make the last operand ambiguous, the
library supports monotone chains only; the generator produces monotone chains). -/
theorem chain_mixed_direction (ops : Ops V) (ρ : Nat → Inst V) (x y z : Node V) (op₁ op₂ : CmpOp)
    (h : op₁.ascending ≠ op₂.ascending) :
    evalA ops ρ (chainCmp (buildCmp x op₁ y) op₂ z) =
      (evalA ops ρ (buildCmp x op₁ y) && evalA ops ρ (buildCmp x op₂ z)) := by
  rw [chainCmp_buildCmp, if_neg h]; rfl

theorem flip_ascending (op : CmpOp) : op.flip.ascending = !op.ascending := by
  cases op <;> rfl

theorem buildCmp_flip (x y : Node V) (op : CmpOp) : buildCmp y op.flip x = buildCmp x op y := by
  cases op <;> rfl

theorem operandVal_const (ops : Ops V) (ρ : Nat → Inst V) (c : V) :
    operandVal ops ρ (.const c) = some c := by
  simp [operandVal, instW]

/-- a comparison involving at least one object builds the same assertion whichever side the number is
on (Python calls the reflected method of the object) -/
theorem cmpOpnd_eq_buildCmp (ops : Ops V) (x y : Opnd V) (op : CmpOp) (h : x.isObj = true ∨ y.isObj = true) :
    cmpOpnd ops x op y = buildCmp x.node op y.node := by
  cases x with
  | obj n => rfl
  | num a =>
    cases y with
    | obj n => exact buildCmp_flip (.const a) n op
    | num b => simp [Opnd.isObj] at h

theorem cmpOpnd_flip_num (ops : Ops V) (x : Opnd V) (op : CmpOp) (k : V) :
    cmpOpnd ops x op.flip (.num k) = cmpOpnd ops (.num k) op x := by
  cases x with
  | obj n => rfl
  | num a => cases op <;> rfl

/-- the verdict of `x op y` is Python's `op` on the two numbers, also for reflected operands and for two
plain numbers -/
theorem evalA_cmpOpnd (ops : Ops V) (ρ : Nat → Inst V) (x y : Opnd V) (op : CmpOp) (a b : V)
    (hx : operandVal ops ρ x.node = some a) (hy : operandVal ops ρ y.node = some b) :
    evalA ops ρ (cmpOpnd ops x op y) = cmpNum ops a op b := by
  cases x with
  | obj n => exact evalA_buildCmp ops ρ n y.node op a b hx hy
  | num c =>
    cases y with
    | obj n =>
      rw [cmpOpnd_eq_buildCmp ops _ _ op (.inr rfl)]
      exact evalA_buildCmp ops ρ _ _ op a b hx hy
    | num d =>
      cases (operandVal_const ops ρ c).symm.trans hx
      cases (operandVal_const ops ρ d).symm.trans hy
      rfl

theorem chainOpnd_eq (ops : Ops V) (x y z : Opnd V) (op₁ op₂ : CmpOp) (h : x.isObj = true ∨ y.isObj = true) :
    chainOpnd ops x op₁ y op₂ z =
      .and (cmpOpnd ops x op₁ y) (cmpOpnd ops (if op₁.ascending = op₂.ascending then y else x) op₂ z) := by
  unfold chainOpnd
  rw [cmpOpnd_eq_buildCmp ops x y op₁ h]
  unfold buildCmp
  cases op₁.ascending <;> cases op₂.ascending <;> rfl

/-- **two-link chains with any mix of objects and numbers**: `(x op₁ y) op₂ z`, same direction, denotes
`x op₁ y ∧ y op₂ z` (every link involving an object) -/
theorem chainOpnd_same_direction (ops : Ops V) (ρ : Nat → Inst V) (x y z : Opnd V) (op₁ op₂ : CmpOp)
    (h : op₁.ascending = op₂.ascending) (h₁ : x.isObj = true ∨ y.isObj = true) :
    evalA ops ρ (chainOpnd ops x op₁ y op₂ z) =
      (evalA ops ρ (cmpOpnd ops x op₁ y) && evalA ops ρ (cmpOpnd ops y op₂ z)) := by
  rw [chainOpnd_eq ops x y z op₁ op₂ h₁, if_pos h]; rfl

/-- **constant on the left of a comparison**: `k op₁ (x op₂ y)`, same direction, denotes
`k op₁ x ∧ x op₂ y` -/
theorem reflOpnd_same_direction (ops : Ops V) (ρ : Nat → Inst V) (k : V) (x y : Opnd V) (op₁ op₂ : CmpOp)
    (h : op₁.ascending = op₂.ascending) (h₁ : x.isObj = true ∨ y.isObj = true) (hx : x.isObj = true) :
    evalA ops ρ (reflOpnd ops k op₁ x op₂ y) =
      (evalA ops ρ (cmpOpnd ops (.num k) op₁ x) && evalA ops ρ (cmpOpnd ops x op₂ y)) := by
  -- the reflected link runs against the direction of `op₂`, so it continues from `x`
  have hne : op₂.ascending ≠ op₁.flip.ascending := by simp [flip_ascending, h]
  rw [reflOpnd, chainOpnd_eq ops x y (.num k) op₂ op₁.flip h₁, if_neg hne, cmpOpnd_flip_num]
  exact Bool.and_comm ..

example : evalA natOps (valOf [(2, 7), (5, 3)]) (reflOpnd natOps 1 .lt (.obj (.prior 5)) .lt (.obj (.prior 2))) = true := by decide +kernel
example : evalA natOps (valOf [(2, 7), (5, 3)]) (reflOpnd natOps 4 .lt (.obj (.prior 5)) .lt (.obj (.prior 2))) = false := by decide +kernel
example : evalA natOps (valOf [(2, 7), (5, 3)]) (chainOpnd natOps (.num 1) .lt (.obj (.prior 5)) .le (.num 3)) = true := by decide +kernel

end AF.C03
