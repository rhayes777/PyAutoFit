import AFModel.Freeze
import AFModel.FreezeTree
import AFProofs.Lemmas.FreezeTree
import AFModel.RecCache
import AFProofs.Lemmas.RecCache

/-!
# C13 — model answers depend only on the current composition

Theorems about `fstep` / `frun` (`AFModel/Freeze.lean`) for any topology of live models (several
models, shared components, copies — a copy is a fresh set of nodes with cold caches) and any
operation history.
-/

namespace AF.C13
open AF

/-- laws of a topology extracted from an object graph -/
structure Lawful (T : Topo) : Prop where
  anc_sub : ∀ a d, a ∈ T.anc d → d ∈ T.sub a
  sub_trans : ∀ n k d, k ∈ T.sub n → d ∈ T.sub k → d ∈ T.sub n
  /-- whatever reaches `d` is `d` itself or one of its ancestors -/
  sub_anc : ∀ k d, d ∈ T.sub k → k = d ∨ k ∈ T.anc d

/-- the invariant: cached answers are current, only frozen nodes hold a cache, and everything below
a frozen node is frozen -/
structure Inv (T : Topo) (s : FState) : Prop where
  cache_current : ∀ k key q v, (key, (q, v)) ∈ s.cache k → q = key ∧ v = s.version k
  cache_only_frozen : ∀ k, s.frozen k = false → s.cache k = []
  frozen_down : ∀ k d, s.frozen k = true → d ∈ T.sub k → s.frozen d = true

theorem inv_iff (T : Topo) (s : FState) : Inv T s ↔ CacheInv (fun k d => d ∈ T.sub k) []
    (fun k c => ∀ key q v, (key, (q, v)) ∈ c → q = key ∧ v = s.version k) s.frozen s.cache :=
  ⟨fun h => ⟨h.1, h.2, h.3⟩, fun h => ⟨h.1, h.2, h.3⟩⟩

theorem inv_init (T : Topo) : Inv T FState.init :=
  ⟨fun _ _ _ _ h => (nomatch h), fun _ _ => rfl, fun _ _ h _ => (nomatch h)⟩

/-- is the operation one the theorem covers? every `unfreeze` must be *safe* in the current state
(in a tree: no frozen ancestor) -/
def opOk (T : Topo) (s : FState) : FOp → Prop
  | .unfreeze n => unfreezeSafe T s n = true
  | _ => True

theorem step_preserves (T : Topo) (hT : Lawful T) (s : FState) (op : FOp) (h : Inv T s)
    (hop : opOk T s op) : Inv T (fstep T s op).1 := by
  have hc := (inv_iff T s).mp h
  cases op with
  | query n q =>
    simp only [fstep]
    split
    · next hf =>
      split
      · exact h
      · refine (inv_iff T _).mpr (hc.store n _ (fun key q' v hk => ?_) (fun hn => by rw [hf] at hn; cases hn))
        rcases List.mem_append.mp hk with hk | hk
        · exact h.cache_current n key q' v hk
        · cases List.mem_singleton.mp hk; exact ⟨rfl, rfl⟩
    · exact h
  | freeze n => exact (inv_iff T _).mpr (hc.freeze (· ∈ T.sub n) fun k d => hT.sub_trans n k d)
  | unfreeze n =>
    simp only [opOk, unfreezeSafe, List.all_eq_true, Bool.or_eq_true, decide_eq_true_eq,
      Bool.not_eq_true'] at hop
    refine (inv_iff T _).mpr (hc.unfreeze (fun _ _ _ _ hk => nomatch hk) (· ∈ T.sub n) fun k d hk hd hd' => ?_)
    rcases hT.sub_anc k d hd with rfl | hka
    · exact hd'
    · rcases hop d hd' k hka with h1 | h1
      · exact h1
      · rw [hk] at h1; cases h1
  | modify n =>
    simp only [fstep]
    split
    · exact h
    · next hf =>
      refine (inv_iff T _).mpr (hc.recompute _ (fun _ _ _ _ hk => nomatch hk) fun k hk hg => ?_)
      -- a frozen node is neither `n` nor above it: its version stays
      have hnot : ¬ (k = n ∨ k ∈ T.anc n) := by
        rintro (rfl | hka)
        · exact hf hk
        · exact hf (h.frozen_down k n hk (hT.anc_sub k n hka))
      simpa only [hnot, if_false] using hg
  | failing n => exact h

/-- what a dictionary look-up returns is an entry stored under an equal key -/
theorem lookup_some_mem (c : FCache) (q : Nat) (r : Nat × Nat) (h : c.lookup q = some r) : (q, r) ∈ c := by
  obtain ⟨e, he, rfl⟩ := Option.map_eq_some_iff.mp h
  have hq : e.1 = q := by simpa using List.find?_some he
  exact hq ▸ List.mem_of_find?_eq_some he

/-- **A query is answered from the current composition** whenever the invariant holds: with the
answer of the very function and arguments asked for (`q`), computed from the current version, whether
or not the node is frozen and whatever was asked before (entries of other functions / arguments never
serve this one). -/
theorem query_fresh (T : Topo) (s : FState) (n q : Nat) (h : Inv T s) :
    (fstep T s (.query n q)).2 = .answered q (s.version n) := by
  simp only [fstep]
  split
  · split
    · next q' v hc =>
      obtain ⟨rfl, rfl⟩ := h.cache_current n q q' v (lookup_some_mem _ _ _ hc)
      rfl
    · rfl
  · rfl

/-- queries are observations: the composition and the flags stay -/
theorem query_keeps_versions (T : Topo) (s : FState) (n q : Nat) :
    (fstep T s (.query n q)).1.version = s.version ∧ (fstep T s (.query n q)).1.frozen = s.frozen := by
  simp only [fstep]
  split
  · split <;> exact ⟨rfl, rfl⟩
  · exact ⟨rfl, rfl⟩

/-- all operations of a history are covered (each unfreeze safe when it happens) -/
def historyOk (T : Topo) : FState → List FOp → Prop
  | _, [] => True
  | s, op :: rest => opOk T s op ∧ historyOk T (fstep T s op).1 rest

theorem history_preserves (T : Topo) (hT : Lawful T) : ∀ (ops : List FOp) (s : FState),
    Inv T s → historyOk T s ops → Inv T (frun T s ops).1
  | [], _, h, _ => h
  | op :: rest, s, h, hok =>
    history_preserves T hT rest _ (step_preserves T hT s op h hok.1) hok.2

/-- **History independence.** After any covered history (any interleaving of queries, freezes,
safe unfreezes, modifications — accepted or rejected — and failing calls, on any number of live
models) every query is answered from the current composition. -/
theorem history_independent (T : Topo) (hT : Lawful T) (ops : List FOp) (n q : Nat)
    (hok : historyOk T FState.init ops) :
    (fstep T (frun T FState.init ops).1 (.query n q)).2 =
      .answered q ((frun T FState.init ops).1.version n) :=
  query_fresh T _ n q (history_preserves T hT ops _ (inv_init T) hok)

/-- **A frozen model rejects assignment** and is left unchanged. -/
theorem frozen_rejects (T : Topo) (s : FState) (n : Nat) (h : s.frozen n = true) :
    fstep T s (.modify n) = (s, .rejected) := by
  simp only [fstep, h, if_true]

/-- **Changes made after unfreezing are reflected**: an accepted modification advances the version
the node (and every node above it) answers from. -/
theorem modify_visible (T : Topo) (s : FState) (n : Nat) (h : s.frozen n = false) :
    (fstep T s (.modify n)).2 = .done ∧ (fstep T s (.modify n)).1.version n = s.version n + 1 ∧
    ∀ a ∈ T.anc n, (fstep T s (.modify n)).1.version a = s.version a + 1 := by
  simp only [fstep, h, Bool.false_eq_true, if_false, true_or, if_true, true_and]
  exact fun a ha => if_pos (.inr ha)

theorem unfreeze_unfreezes (T : Topo) (s : FState) (n : Nat) (hn : n ∈ T.sub n) :
    (fstep T s (.unfreeze n)).1.frozen n = false := by
  simp [fstep, hn]

theorem failing_noop (T : Topo) (s : FState) (n : Nat) : (fstep T s (.failing n)).1 = s := rfl

/-! ## the uncovered case, as it is: unfreezing a component below a frozen parent

`child.unfreeze()` is accepted by the library although the parent stays frozen; a later change of
the child is then not reflected by the parent (known finding C13-child-unfreeze). -/

def chain : Topo := { sub := fun n => if n = 0 then [0, 1] else if n = 1 then [1] else [],
                      anc := fun n => if n = 1 then [0] else [] }

theorem chain_lawful : Lawful chain := by
  refine ⟨?_, ?_, ?_⟩
  · intro a d h
    simp only [chain] at h ⊢
    by_cases hd : d = 1 <;> simp_all
  · intro n k d hk hd
    simp only [chain] at hk hd ⊢
    by_cases h0 : n = 0
    · subst h0
      by_cases hk0 : k = 0
      · subst hk0; simpa using hd
      · by_cases hk1 : k = 1
        · subst hk1; simp at hd; simp [hd]
        · simp [hk0, hk1] at hd
    · by_cases h1 : n = 1
      · subst h1; simp at hk; subst hk; simpa using hd
      · simp [h0, h1] at hk
  · intro k d h
    simp only [chain] at h ⊢
    by_cases h0 : k = 0
    · subst h0; simp at h; rcases h with rfl | rfl <;> simp
    · by_cases h1 : k = 1
      · subst h1; simp at h; simp [h]
      · simp [h0, h1] at h

theorem stale_after_child_unfreeze_refuted :
    (frun chain FState.init [.freeze 0, .query 0 7, .unfreeze 1, .modify 1, .query 0 7]).2 =
      [.done, .answered 7 0, .done, .done, .answered 7 0] ∧
    (frun chain FState.init [.freeze 0, .query 0 7, .unfreeze 1, .modify 1, .query 0 7]).1.version 0 = 1 := by
  decide +kernel

/-- non-vacuity: the same history with the unfreeze applied to the parent is covered and fresh -/
example : historyOk chain FState.init [.freeze 0, .query 0 7, .unfreeze 0, .modify 1, .query 0 7] :=
  ⟨trivial, trivial, (by decide : unfreezeSafe chain _ 0 = true), trivial, trivial, trivial⟩
example : (frun chain FState.init [.freeze 0, .query 0 7, .unfreeze 0, .modify 1, .query 0 7]).2 =
    [.done, .answered 7 0, .done, .done, .answered 7 1] := by decide +kernel
/-- entries of different functions / arguments on one frozen node do not serve each other -/
example : (frun chain FState.init [.freeze 0, .query 0 7, .query 0 8, .query 0 7, .query 1 8]).2 =
    [.done, .answered 7 0, .answered 8 0, .answered 7 0, .answered 8 0] := by decide +kernel
example : (frun chain FState.init [.freeze 0, .modify 1]).2 = [.done, .rejected] := by decide +kernel

end AF.C13

/-!
# Refinement to the composition (`AFModel/FreezeTree.lean`)

Here the `version` of a node is its content: every live model is a composition tree
(`AF.Node`), objects are addressed by their attribute path, the topology is the prefix order of paths
(so the reachability laws `Lawful` assumed above are facts here), modifications edit the tree, the
cache holds the values of the cached library functions, and the answers are the `Comp` functions
(`count`, `paths`, `pathPriors`, `uniquePaths`, `uniqueIds`, `instFromVector`) of the subtree.
-/

namespace AF.C13
open AF AF.FT

def SInv {V} (S : Store V) : Prop := ∀ s ∈ S.roots, TInv s

theorem sinv_fresh {V} (ts : List (Node V)) : SInv ⟨ts.map TState.init⟩ := by
  intro s hs
  obtain ⟨t, _, rfl⟩ := List.mem_map.mp hs
  exact tinv_init t

theorem sstep_on_eq {V} [Inhabited V] (ops : Ops V) {S : Store V} {r : Nat} (op : TOp V) {s : TState V}
    (hr : S.roots[r]? = some s) :
    sstep ops S (.on r op) = (⟨S.roots.set r (tstep ops s op).1⟩, (tstep ops s op).2) := by
  simp only [sstep, hr]

/-- the new live model a copy creates -/
def copyOf {V} (s : TState V) (p : Path) (n : Node V) : TState V :=
  { tree := n, frozen := fun x => s.frozen (p ++ x), cache := fun _ => TCache.empty }

theorem sstep_copy_eq {V} [Inhabited V] (ops : Ops V) {S : Store V} {r : Nat} {p : Path} {s : TState V}
    {n : Node V} (hr : S.roots[r]? = some s) (hat : s.tree.at p = some n) :
    sstep ops S (.copy r p) = (⟨S.roots ++ [copyOf s p n]⟩, .done) := by
  simp only [sstep, hr, hat, copyOf]

theorem tinv_copyOf {V} {s : TState V} (p : Path) (n : Node V) (h : TInv s) : TInv (copyOf s p n) :=
  ⟨fun _ m _ => cacheOK_empty m, fun _ _ => rfl,
   fun q q' hq hqq => h.frozen_down (p ++ q) (p ++ q') hq ((List.prefix_append_right_inj p).mpr hqq)⟩

theorem sstep_preserves {V} [Inhabited V] (ops : Ops V) (S : Store V) (op : SOp V) (h : SInv S)
    (hop : sopSafe S op = true) : SInv (sstep ops S op).1 := by
  cases op with
  | on r top =>
    cases hr : S.roots[r]? with
    | none => simpa only [sstep, hr] using h
    | some s =>
      have hok : topOk s top := by
        cases top <;> simp only [topOk]
        case unfreeze p => simpa only [sopSafe, hr] using hop
      rw [sstep_on_eq ops top hr]
      intro s' hs'
      rcases List.mem_or_eq_of_mem_set hs' with h1 | rfl
      · exact h s' h1
      · exact tstep_preserves ops s top (h s (List.mem_of_getElem? hr)) hok
  | copy r p =>
    cases hr : S.roots[r]? with
    | none => simpa only [sstep, hr] using h
    | some s =>
      cases hat : s.tree.at p with
      | none => simpa only [sstep, hr, hat] using h
      | some n =>
        rw [sstep_copy_eq ops hr hat]
        intro s' hs'
        rcases List.mem_append.mp hs' with h1 | h1
        · exact h s' h1
        · cases List.mem_singleton.mp h1
          exact tinv_copyOf p n (h s (List.mem_of_getElem? hr))

/-- all operations of a history are covered (each unfreeze safe when it happens) -/
def shistoryOk {V} [Inhabited V] (ops : Ops V) : Store V → List (SOp V) → Prop
  | _, [] => True
  | S, op :: rest => sopSafe S op = true ∧ shistoryOk ops (sstep ops S op).1 rest

theorem shistory_preserves {V} [Inhabited V] (ops : Ops V) : ∀ (hist : List (SOp V)) (S : Store V),
    SInv S → shistoryOk ops S hist → SInv (srun ops S hist).1
  | [], _, h, _ => h
  | op :: rest, S, h, hok =>
    shistory_preserves ops rest _ (sstep_preserves ops S op h hok.1) hok.2

theorem sstep_query_fresh {V} [Inhabited V] (ops : Ops V) {S : Store V} (h : SInv S)
    {r : Nat} (p : Path) (q : TQuery V) {s : TState V} {n : Node V}
    (hr : S.roots[r]? = some s) (hat : s.tree.at p = some n) (ho : n.isObj = true) :
    (sstep ops S (.on r (.query p q))).2 = .answered (tanswer ops n q) := by
  rw [sstep_on_eq ops _ hr]
  exact tstep_query_fresh ops p q (h s (List.mem_of_getElem? hr)) hat ho

/-- **History independence over real compositions.** Start from any freshly composed models; run
any covered history — queries of any kind, freezes, safe unfreezes, attribute assignments (priors,
constants, whole components, tuple members) and removals — accepted or rejected —, failing calls,
copies, on any of the live models. Then every question asked of any object of any live model is
answered with the `Comp` answer of the composition *now* at that place. -/
theorem tree_history_independent {V} [Inhabited V] (ops : Ops V) (ts : List (Node V))
    (hist : List (SOp V)) (hok : shistoryOk ops ⟨ts.map TState.init⟩ hist)
    (r : Nat) (p : Path) (q : TQuery V) (s : TState V) (n : Node V)
    (hr : (srun ops ⟨ts.map TState.init⟩ hist).1.roots[r]? = some s)
    (hat : s.tree.at p = some n) (ho : n.isObj = true) :
    (sstep ops (srun ops ⟨ts.map TState.init⟩ hist).1 (.on r (.query p q))).2 =
      .answered (tanswer ops n q) :=
  sstep_query_fresh ops (shistory_preserves ops hist _ (sinv_fresh ts) hok) p q hr hat ho

/-- the answer does not depend on being frozen: the same state with the flags of the object
flipped answers the same (one statement for "frozen or not") -/
theorem tree_query_frozen_or_not {V} [Inhabited V] (ops : Ops V) (s : TState V) (p : Path) (q : TQuery V)
    (n : Node V) (h : TInv s) (hat : s.tree.at p = some n) (ho : n.isObj = true) :
    (tstep ops s (.query p q)).2 = .answered (tanswer ops n q) ∧
    (tstep ops (TState.init s.tree) (.query p q)).2 = .answered (tanswer ops n q) :=
  ⟨tstep_query_fresh ops p q h hat ho, tstep_query_fresh ops p q (tinv_init s.tree) hat ho⟩

/-- **A frozen model rejects assignment and removal** and is left unchanged. -/
theorem tree_frozen_rejects {V} [Inhabited V] (ops : Ops V) (s : TState V) (p : Path) (n : Node V)
    (k : String) (v : Node V) (hat : s.tree.at p = some n) (hf : s.frozen p = true) :
    tstep ops s (.setAttr p k v) = (s, .rejected) ∧ tstep ops s (.remove p k) = (s, .rejected) := by
  simp [tstep, tmodify, hat, hf]

/-- **Changes made after unfreezing are reflected** (1): an assignment on an unfrozen collection puts
the value at its place in the composition … -/
theorem tree_set_reflected {V} [Inhabited V] (ops : Ops V) (s : TState V) (p : Path)
    (attrs : List (String × Node V)) (k : String) (v : Node V)
    (hat : s.tree.at p = some (.coll attrs)) (hf : s.frozen p = false) :
    (tstep ops s (.setAttr p k v)).1.tree.at (p ++ [k]) = some v := by
  show (tmodify s p (.setAttr p k v)).1.tree.at (p ++ [k]) = some v
  rw [at_append, (tmodify_at hat hf rfl).2]
  exact (at_singleton _ k).trans (lookupAttr_setKey_self k v attrs)

/-- … a removal takes it away … -/
theorem tree_remove_reflected {V} [Inhabited V] (ops : Ops V) (s : TState V) (p : Path)
    (attrs : List (String × Node V)) (k : String)
    (hat : s.tree.at p = some (.coll attrs)) (hf : s.frozen p = false) :
    (tstep ops s (.remove p k)).1.tree.at (p ++ [k]) = none := by
  show (tmodify s p (.remove p k)).1.tree.at (p ++ [k]) = none
  rw [at_append, (tmodify_at hat hf rfl).2]
  exact (at_singleton _ k).trans (lookupAttr_eraseKey_self k attrs)

/-- … (2) and the very next question — of the modified object — is answered from the modified
composition, whatever was cached before. -/
theorem tree_modify_then_query {V} [Inhabited V] (ops : Ops V) (s : TState V) (p : Path) (op : TOp V)
    (n : Node V) (k : String) (f) (q : TQuery V) (h : TInv s)
    (hat : s.tree.at p = some n) (hf : s.frozen p = false) (hplan : modPlan n op = some (k, f))
    (ho : (n.withAttrs (f n.attrs)).isObj = true) :
    (tmodify s p op).2 = .done ∧
    (tstep ops (tmodify s p op).1 (.query p q)).2 = .answered (tanswer ops (n.withAttrs (f n.attrs)) q) :=
  have hm := tmodify_at hat hf hplan
  ⟨hm.1, tstep_query_fresh ops p q (tmodify_preserves p op h) hm.2 ho⟩

/-- **Copies.** A copy (deepcopy / `.copy()` / pickle round trip) of an object answers every
question like the original at copy time, keeps the frozen flag and starts with a cold cache. -/
theorem copy_answers_like_original {V} [Inhabited V] (ops : Ops V) (S : Store V) (h : SInv S)
    (r : Nat) (p : Path) (q : TQuery V) (s : TState V) (n : Node V)
    (hr : S.roots[r]? = some s) (hat : s.tree.at p = some n) (ho : n.isObj = true) :
    (sstep ops S (.copy r p)).2 = .done ∧
    (sstep ops (sstep ops S (.copy r p)).1 (.on S.roots.length (.query [] q))).2 = .answered (tanswer ops n q) ∧
    (sstep ops S (.on r (.query p q))).2 = .answered (tanswer ops n q) := by
  have hinv := sstep_preserves ops S (.copy r p) h rfl
  rw [sstep_copy_eq ops hr hat] at hinv ⊢
  exact ⟨rfl, sstep_query_fresh ops hinv [] q List.getElem?_concat_length rfl ho,
    sstep_query_fresh ops h p q hr hat ho⟩

theorem copy_keeps_frozen_flag {V} [Inhabited V] (ops : Ops V) (S : Store V)
    (r : Nat) (p : Path) (s : TState V) (n : Node V)
    (hr : S.roots[r]? = some s) (hat : s.tree.at p = some n) :
    ∃ s', (sstep ops S (.copy r p)).1.roots[S.roots.length]? = some s' ∧ s'.tree = n ∧
      s'.frozen [] = s.frozen p ∧ ∀ x, s'.cache x = TCache.empty := by
  rw [sstep_copy_eq ops hr hat]
  exact ⟨copyOf s p n, List.getElem?_concat_length, rfl, congrArg s.frozen (List.append_nil p), fun _ => rfl⟩

/-- **Independence.** An operation on one live model leaves every other live model (the original of a
copy, its copies, unrelated models) exactly as it was; a copy leaves all existing models as they were. -/
theorem other_models_untouched {V} [Inhabited V] (ops : Ops V) (S : Store V) (r r' : Nat) (op : TOp V)
    (hne : r ≠ r') : (sstep ops S (.on r op)).1.roots[r']? = S.roots[r']? := by
  cases hr : S.roots[r]? with
  | none => simp only [sstep, hr]
  | some s => rw [sstep_on_eq ops op hr]; exact List.getElem?_set_ne hne

theorem copy_leaves_existing {V} [Inhabited V] (ops : Ops V) (S : Store V) (r r' : Nat) (p : Path)
    (hlt : r' < S.roots.length) : (sstep ops S (.copy r p)).1.roots[r']? = S.roots[r']? := by
  cases hr : S.roots[r]? with
  | none => simp only [sstep, hr]
  | some s =>
    cases hat : s.tree.at p with
    | none => simp only [sstep, hr, hat]
    | some n =>
      rw [sstep_copy_eq ops hr hat]
      exact List.getElem?_append_left hlt

/-! ## witnesses -/

def unitOps : Ops Nat where
  bin := fun _ a b => a + b
  un := fun _ a => a
  nameLe := fun a b => decide (a ≤ b)
  lt := fun a b => decide (a < b)
  le := fun a b => decide (a ≤ b)

/-- `Collection(g=Model(P2), k=<prior 3>)`, the prior 3 also being `g.b` -/
def wtree : Node Nat :=
  .coll [("g", .model "P2" ["a", "b"] [("a", .prior 1), ("b", .prior 3)]), ("k", .prior 3)]

def outNat : TOut Nat → Nat
  | .answered (.nat k) => k
  | .answered (.natsA l) => 100 + l.length
  | .rejected => 77
  | .done => 88
  | _ => 99

/-- the uncovered case on real content: unfreezing the component below its frozen parent, fixing a
parameter of the component — the parent still counts it (known finding C13-child-unfreeze) -/
theorem tree_stale_after_child_unfreeze_refuted :
    ((srun unitOps ⟨[TState.init wtree]⟩
      [.on 0 (.freeze []), .on 0 (.query [] .count), .on 0 (.unfreeze ["g"]),
       .on 0 (.setAttr ["g"] "a" (.const 5)), .on 0 (.query [] .count), .on 0 (.query ["g"] .count)]).2.map outNat
      = [88, 2, 88, 88, 2, 1]) ∧
    (sopSafe (srun unitOps ⟨[TState.init wtree]⟩ [.on 0 (.freeze []), .on 0 (.query [] .count)]).1
      (.on 0 (.unfreeze ["g"])) = false) := by
  decide +kernel

/-- non-vacuity: the same history with the unfreeze applied to the parent is covered, and fresh -/
example : shistoryOk unitOps ⟨[TState.init wtree]⟩
    [.on 0 (.freeze []), .on 0 (.query [] .count), .on 0 (.unfreeze []),
     .on 0 (.setAttr ["g"] "a" (.const 5)), .on 0 (.query [] .count)] :=
  ⟨rfl, rfl, by decide +kernel, rfl, rfl, trivial⟩
example : (srun unitOps ⟨[TState.init wtree]⟩
    [.on 0 (.freeze []), .on 0 (.query [] .count), .on 0 (.unfreeze []),
     .on 0 (.setAttr ["g"] "a" (.const 5)), .on 0 (.query [] .count), .on 0 (.freeze ["g"]),
     .on 0 (.setAttr ["g"] "b" (.const 5)), .copy 0 ["g"], .on 1 (.query [] .ids),
     .on 1 (.setAttr [] "b" (.const 5)), .on 1 (.unfreeze []), .on 1 (.setAttr [] "b" (.const 5)),
     .on 1 (.query [] .count), .on 0 (.query ["g"] .count), .on 0 (.remove [] "k"), .on 0 (.query [] .count)]).2.map outNat
    = [88, 2, 88, 88, 1, 88, 77, 88, 101, 77, 88, 88, 0, 1, 88, 1] := by
  decide +kernel
example : wtree.at ["g"] = some (.model "P2" ["a", "b"] [("a", .prior 1), ("b", .prior 3)]) ∧
    (Node.model "P2" ["a", "b"] [("a", Node.prior (V := Nat) 1), ("b", .prior 3)]).isObj = true :=
  ⟨rfl, rfl⟩

end AF.C13

/-!
# The process-wide recursion cache (`AFModel/RecCache.lean`)

`DynamicRecursionCache` is shared by every walk of every model in the process. Whatever the wrapped
function does on the item — recurse into any parts in any order, meet cycles, raise at any depth — the
cache holds after the call exactly what it held before it: no entry of a finished call survives, so no
later call (on the same object, or on another object that received the same `id()`) is answered with
the placeholder of a call that is over.
-/

namespace AF.C13
open AF AF.RC

/-- **A call leaves the recursion cache as it found it**, raising or not. -/
theorem recursion_cache_restored (s : RState) (c : RCall) : (rcall s c).1.cache = s.cache :=
  rcall_cache s c

/-- after any sequence of top-level calls (failing or not) the cache is empty again -/
theorem recursion_cache_empty_after_calls (cs : List RCall) (tr : List Nat) :
    (rcalls ⟨[], tr⟩ cs).1.cache = [] :=
  rcalls_cache cs ⟨[], tr⟩

/-- a placeholder is returned only for an item whose call is in progress -/
theorem promise_only_in_progress (s : RState) (id : Nat) (raises : Bool) (children : List RCall) :
    (rcall s (.node id raises children)).2 = .promise ↔ id ∈ s.cache := by
  unfold rcall
  by_cases h : id ∈ s.cache
  · rw [if_pos (by simpa using h)]; simp [h]
  · rw [if_neg (by simpa using h)]
    simp only [h, iff_false]
    split
    · simp
    · split <;> simp

/-- **No poisoned entry**: whatever calls came earlier in the process — including failing ones on the
same id — a top-level call is never answered with a placeholder. -/
theorem no_poisoned_entry (cs : List RCall) (id : Nat) (raises : Bool) (children : List RCall) :
    (rcall (rcalls ⟨[], []⟩ cs).1 (.node id raises children)).2 ≠ .promise := by
  intro h
  have := (promise_only_in_progress _ id raises children).mp h
  rw [recursion_cache_empty_after_calls] at this
  cases this

/-- non-vacuity: a walk that meets a cycle (inner item 1 = outer item 1), then fails at depth 2; the
same object is then walked again without a failure -/
example : (rcalls ⟨[], []⟩ [.node 1 false [.node 2 false [.node 1 false []], .node 3 false [.node 4 true [], .node 5 false []]],
                              .node 1 false [.node 2 false []]]) =
    (⟨[], [1, 2, 3, 4, 1, 2]⟩, [.raised, .ok]) := by decide +kernel

end AF.C13
