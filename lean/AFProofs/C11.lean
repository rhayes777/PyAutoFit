import AFProofs.Lemmas.Scrape
import AFProofs.Lemmas.SearchSig

/-!
# C11 — loading an output directory into a database loses nothing

Subject: `AF.Scrape.scrape` (what `Aggregator.add_directory` makes of an output tree),
`AF.Scrape.layout` (the tree a list of runs leaves behind) and `AF.Scrape.direct` (the rows the same
runs write through a database session) — the definitions `AFDriver/C11.lean` executes and
`harness/c11.py` ties to the code on every run; then `AF.SearchSig.call` (Python's keyword binding
through a chain of constructors) and `AF.FitFiles` (the writer's file names against the reader's
lookups), both over tables regenerated from the source.
-/

namespace AF.C11
open AF AF.Scrape

variable {V : Type}

/-- **The best-fit sample is the first sample of highest likelihood.** -/
theorem best_fit_is_first_maximum {lt : V → V → Bool} (h : StrictWeak lt) (rows : List (Sample V))
    (b : Sample V) (hb : bestSample lt rows = some b) :
    ∃ pre post, rows = pre ++ b :: post ∧ (∀ y ∈ pre, lt y.ll b.ll = true) ∧
      (∀ y ∈ post, lt b.ll y.ll = false) := by
  cases rows with
  | nil => cases hb
  | cons s rest =>
    simp only [bestSample, firstMax, Option.some.injEq] at hb
    subst hb
    exact firstMaxFrom_spec (key := fun s : Sample V => s.ll) h rest s

theorem best_fit_is_highest {lt : V → V → Bool} (h : StrictWeak lt) (rows : List (Sample V))
    (b : Sample V) (hb : bestSample lt rows = some b) :
    b ∈ rows ∧ ∀ y ∈ rows, lt b.ll y.ll = false := by
  obtain ⟨pre, post, heq, hpre, hpost⟩ := best_fit_is_first_maximum h rows b hb
  exact ⟨heq ▸ List.mem_append_right _ (List.mem_cons_self ..),
    max_of_split (key := fun s : Sample V => s.ll) h heq hpre hpost⟩

theorem best_fit_exists_iff (lt : V → V → Bool) (rows : List (Sample V)) :
    bestSample lt rows = none ↔ rows = [] := by
  cases rows <;> simp [bestSample, firstMax]

/-- the row's `max_log_likelihood` and best-fit instance are those of that sample -/
theorem row_best_fit (lt : V → V → Bool) (it : Item V) (sj : SamplesJ V) (b : Sample V)
    (hs : it.c.samples = some sj) (hb : bestSample lt sj.rows = some b) :
    (Row.ofItem lt it).maxLL = some b.ll ∧ (Row.ofItem lt it).inst = some b.params := by
  simp [Row.ofItem, bestOf, hs, hb]

example : StrictWeak (fun a b : Int => decide (a < b)) :=
  ⟨fun a => decide_eq_false (Int.lt_irrefl a),
   fun _ _ _ h1 h2 => decide_eq_true (Int.lt_trans (of_decide_eq_true h1) (of_decide_eq_true h2)),
   fun _ _ _ h1 h2 => decide_eq_false (Int.not_lt.2
     (Int.le_trans (Int.not_lt.1 (of_decide_eq_false h2)) (Int.not_lt.1 (of_decide_eq_false h1))))⟩

example : (bestSample (fun a b : Int => decide (a < b))
    [⟨1, 0, 1, 1, [10]⟩, ⟨5, 0, 5, 1, [20]⟩, ⟨5, 0, 5, 1, [30]⟩, ⟨2, 0, 2, 1, [40]⟩]).map (·.params) =
    some [20] := by decide +kernel

/-! ## any output tree -/

/-- **One database fit per identifier, whatever the tree** (a fit present twice — archive and
folder, or a copy — is one row). -/
theorem one_row_per_fit (lt : V → V → Bool) (cfg : Cfg) (co : Bool) (slots : List (Slot V)) :
    ∃ fitRows gridRows, scrape lt cfg co slots [] = fitRows ++ gridRows ∧
      (fitRows.map (·.id)).Nodup ∧
      (∀ x, x ∈ fitRows.map (·.id) ↔ x ∈ (searchOutputs co slots).map Item.id) ∧
      gridRows.map (·.id) = (gridOutputs co slots).map (gridId cfg) := by
  have hid : ((addFits lt [] (searchOutputs co slots)).map
      (reparentAll cfg (searchOutputs co slots) (gridOutputs co slots))).map (·.id) =
      (addFits lt [] (searchOutputs co slots)).map (·.id) := by
    rw [List.map_map]
    exact List.map_congr_left fun r _ => reparentAll_id ..
  refine ⟨_, _, addGrids_eq .., ?_, ?_, gridRowsAfter_ids ..⟩
  · rw [hid]
    exact addFits_nodup _ _ List.nodup_nil
  · intro x
    rw [hid, addFits_mem_ids]
    simp

/-- **The id is the identifier the fit was written under** whenever search, model and tag reload to
objects with the same identifier tokens (the C07 reload-stability clause). -/
theorem id_is_written_identifier (it : Item V) (written : List String)
    (hw : it.c.ident = some written) (stable : it.c.recomputed = written) :
    it.id = joinTokens written ∧ it.c.ident = some it.c.recomputed := by
  subst stable
  exact ⟨rfl, hw⟩

/-- **The row holds what the directory holds**: name, tag, completion flag, model, info, samples,
best fit, files and child analyses are those of `Row.ofItem`; only the parent may have been set by a
grid search. -/
theorem row_holds_directory_content (lt : V → V → Bool) (cfg : Cfg) (co : Bool) (slots : List (Slot V))
    (hnd : ((searchOutputs co slots).map Item.id).Nodup) (it : Item V)
    (hit : it ∈ searchOutputs co slots) :
    ∃ r ∈ scrape lt cfg co slots [], r = { Row.ofItem lt it with parent := r.parent } := by
  unfold scrape
  rw [addGrids_eq, addFits_fresh _ _ hnd (by simp), List.nil_append]
  refine ⟨reparentAll cfg (searchOutputs co slots) (gridOutputs co slots) (Row.ofItem lt it), ?_, ?_⟩
  · exact List.mem_append_left _ (List.mem_map_of_mem (List.mem_map_of_mem hit))
  · exact reparentAll_fields ..

/-- **`completed_only`** keeps exactly the outputs that hold `.completed` -/
theorem completed_only_filters (slots : List (Slot V)) :
    searchOutputs true slots = (searchOutputs false slots).filter (·.c.completed) ∧
    gridOutputs true slots = (gridOutputs false slots).filter (·.c.completed) :=
  ⟨filterMap_keep (·.metadata) slots, filterMap_keep (·.grid.isSome) slots⟩

/-- **Zipped, unzipped or both**: the scraper sees the same directory content -/
theorem zip_or_folder_same_tree (path : Dir) (c : Content V) (k : Kind) :
    (slotOf path k c).effective = some c := slotOf_effective path k c

/-! ## the tree of a list of runs, and the database route -/

/-- with the grid stored under its folder name, linking the cells changes nothing: they already
record that parent -/
theorem scrape_of_layout {runs : List (Run V)} (wf : WF runs) (lt : V → V → Bool) :
    scrape lt { gridIdFolder := true } false (layout runs) [] =
      (places runs).map (fun p => Row.ofItem lt p.item) ++
      (gridsOf runs).map (fun g => gridRow { gridIdFolder := true } g.item) := by
  simp only [scrape, searchOutputs_layout, gridOutputs_layout]
  rw [addFits_fresh _ _ (by rw [List.map_map]; exact wf.fitIds) (by simp), addGrids_eq,
    List.nil_append, List.map_map, List.map_map]
  congr 1
  · refine List.map_congr_left fun p hp => reparentAll_eq_self _ _ _ _ ?_
    intro gi hgi hin
    obtain ⟨g, hg, rfl⟩ := List.mem_map.1 hgi
    rw [gridId_folder]
    exact parent_of_gridChild wf hg hp hin
  · rw [gridRowsAfter_eq, List.map_map]
    · rfl
    intro gi hgi gi' _ hin
    obtain ⟨g, hg, rfl⟩ := List.mem_map.1 hgi
    rw [gridId_folder] at hin
    obtain ⟨p, hp, _, hid⟩ := mem_gridChildIds_places hin
    exact wf.gridFresh g hg (List.mem_map.2 ⟨p, hp, hid⟩)

/-- **The id equals the folder name**: a fit written by `DirectoryPaths` lives in a folder named by
its identifier, records that identifier's tokens in `.identifier`, and is scraped under it (cells
live in `<grid>/<label>` instead and are covered by `.identifier` alone) -/
theorem id_is_folder_name (f : FitRun V) (par : Option String) (dir : Dir) :
    f.path.getLast? = some (Place.item ⟨f.path, none, f⟩).id ∧
    (Place.item ⟨dir, par, f⟩).c.ident = some (Place.item ⟨dir, par, f⟩).c.recomputed ∧
    (Place.item ⟨dir, par, f⟩).id = joinTokens f.identTok := by
  refine ⟨?_, rfl, rfl⟩
  simp [FitRun.path, FitRun.ident]

/-- one fit row per fit, **one parent row per grid search** -/
theorem ids_distinct {runs : List (Run V)} (wf : WF runs) (lt : V → V → Bool) :
    ((scrape lt { gridIdFolder := true } false (layout runs) []).map (·.id)).Nodup ∧
    (scrape lt { gridIdFolder := true } false (layout runs) []).map (·.id) =
      (places runs).map (·.fit.ident) ++ (gridsOf runs).map GridRun.ident := by
  have hids : (scrape lt { gridIdFolder := true } false (layout runs) []).map (·.id) =
      (places runs).map (·.fit.ident) ++ (gridsOf runs).map GridRun.ident := by
    rw [scrape_of_layout wf lt, List.map_append, List.map_map, List.map_map]
    congr 1
    apply List.map_congr_left
    intro g _
    exact gridId_folder g
  refine ⟨?_, hids⟩
  rw [hids]
  refine List.nodup_append.2 ⟨wf.fitIds, wf.gridIds, ?_⟩
  intro a ha b hb hab
  obtain ⟨g, hg, rfl⟩ := List.mem_map.1 hb
  exact wf.gridFresh g hg (hab ▸ ha)

/-- **Every grid search is linked to exactly its cell fits.** -/
theorem grid_children_exact {runs : List (Run V)} (wf : WF runs) (lt : V → V → Bool)
    (g : GridRun V) (hg : g ∈ gridsOf runs) (r : Row V)
    (hr : r ∈ scrape lt { gridIdFolder := true } false (layout runs) []) :
    r.parent = some g.ident ↔ ∃ c ∈ g.cells, r = Row.ofItem lt
      (Place.item ⟨g.path ++ [c.1], some g.ident, c.2⟩) := by
  rw [scrape_of_layout wf lt] at hr
  rcases List.mem_append.1 hr with hr | hr
  · obtain ⟨p, hp, rfl⟩ := List.mem_map.1 hr
    constructor
    · intro hpar
      obtain ⟨g', hg', hid, c, hc, rfl⟩ := places_parent hp hpar
      cases eq_of_nodup_map GridRun.ident wf.gridIds hg' hg hid
      exact ⟨c, hc, rfl⟩
    · rintro ⟨c, _, hc⟩
      rw [hc]; rfl
  · -- a grid search's own row records no parent and is marked as a grid search
    obtain ⟨g', _, rfl⟩ := List.mem_map.1 hr
    exact ⟨fun h => (by cases h),
      fun ⟨_, _, heq⟩ => Bool.noConfusion (show true = false from congrArg Row.isGrid heq)⟩

/-- **Scraping agrees with the database route, fit by fit** (cells included); the samples are the
same up to the database route's `minimise`. -/
theorem scrape_agrees_with_direct {runs : List (Run V)} (wf : WF runs) (lt : V → V → Bool)
    (p : Place V) (hp : p ∈ places runs) :
    Row.ofItem lt p.item ∈ scrape lt { gridIdFolder := true } false (layout runs) [] ∧
    p.fit.directRow lt p.parent ∈ direct lt runs ∧
    agree lt p.fit.saveAll (Row.ofItem lt p.item) (p.fit.directRow lt p.parent) := by
  refine ⟨?_, ?_, ?_⟩
  · rw [scrape_of_layout wf lt]
    exact List.mem_append_left _ (List.mem_map_of_mem hp)
  · exact (direct_perm lt runs).mem_iff.2 (List.mem_append_left _ (List.mem_map_of_mem hp))
  · unfold agree
    exact ⟨rfl, rfl, rfl, rfl, rfl, rfl, rfl, rfl, rfl, rfl, rfl, rfl, rfl⟩

/-- **… and grid by grid** -/
theorem grid_rows_agree_with_direct {runs : List (Run V)} (wf : WF runs) (lt : V → V → Bool)
    (g : GridRun V) (hg : g ∈ gridsOf runs) :
    gridRow { gridIdFolder := true } g.item ∈ scrape lt { gridIdFolder := true } false (layout runs) [] ∧
    g.directRow ∈ direct lt runs ∧
    (gridRow { gridIdFolder := true } g.item).id = (g.directRow (V := V)).id ∧
    (gridRow { gridIdFolder := true } g.item).isGrid = true ∧ (g.directRow (V := V)).isGrid = true ∧
    (gridRow { gridIdFolder := true } g.item).complete = (g.directRow (V := V)).complete ∧
    (gridRow { gridIdFolder := true } g.item).files = (g.directRow (V := V)).files := by
  refine ⟨?_, ?_, gridId_folder g, rfl, rfl, rfl, rfl⟩
  · rw [scrape_of_layout wf lt]
    exact List.mem_append_right _ (List.mem_map_of_mem hg)
  · exact (direct_perm lt runs).mem_iff.2 (List.mem_append_right _ (List.mem_map_of_mem hg))

/-- **Iterating the aggregator yields the fits without a parent**: every cell's parent row is in
the database, so `top_level_only` hides exactly the cells (plain fits and grid searches remain). -/
theorem top_level_is_parentless {runs : List (Run V)} (wf : WF runs) (lt : V → V → Bool) (r : Row V) :
    r ∈ topLevel (scrape lt { gridIdFolder := true } false (layout runs) []) ↔
      r ∈ scrape lt { gridIdFolder := true } false (layout runs) [] ∧ r.parent = none := by
  refine mem_topLevel (fun r hr pid hp => ?_) r
  rw [scrape_of_layout wf lt] at hr ⊢
  rcases List.mem_append.1 hr with h | h
  · obtain ⟨p, hpl, rfl⟩ := List.mem_map.1 h
    obtain ⟨g, hg, hid, _⟩ := places_parent hpl hp
    exact ⟨_, List.mem_append_right _ (List.mem_map_of_mem hg), hid ▸ gridId_folder g⟩
  · obtain ⟨g, _, rfl⟩ := List.mem_map.1 h
    cases hp

theorem same_number_of_rows {runs : List (Run V)} (wf : WF runs) (lt : V → V → Bool) :
    (scrape lt { gridIdFolder := true } false (layout runs) []).length = (direct lt runs).length := by
  rw [scrape_of_layout wf lt, (direct_perm lt runs).length_eq]
  simp only [List.length_append, List.length_map]

/-- **The kind of storage does not matter**: archive only, folder only or both, as `kinds` chooses
per fit -/
theorem layout_kind_irrelevant (lt : V → V → Bool) (cfg : Cfg) (co : Bool) (runs : List (Run V))
    (kinds : FitRun V → Kind) (db : List (Row V)) :
    scrape lt cfg co (layout (runs.map (Run.withKinds kinds))) db = scrape lt cfg co (layout runs) db := by
  simp only [scrape, searchOutputs_seen, gridOutputs_seen, seen_withKinds]

/-- **A grid's best fit is the first cell of highest likelihood** (`Fit.best_fit`) -/
theorem grid_best_is_highest {lt : V → V → Bool} (h : StrictWeak lt) (negInf : V)
    (kids : List (String × V)) :
    (∀ c, bestChild lt negInf kids = some c →
      ∃ ll, (c, ll) ∈ kids ∧ lt negInf ll = true ∧ ∀ k ∈ kids, lt ll k.2 = false) ∧
    (bestChild lt negInf kids = none → ∀ k ∈ kids, lt negInf k.2 = false) := by
  have hs := bestChild_spec h negInf kids
  constructor
  · intro c hc
    rw [hc] at hs
    obtain ⟨pre, ll, post, heq, hlt, hpre, hpost⟩ := hs
    exact ⟨ll, heq ▸ List.mem_append_right _ (List.mem_cons_self ..), hlt,
      max_of_split (key := Prod.snd) h heq hpre hpost⟩
  · intro hn
    rw [hn] at hs
    exact hs

example : bestChild (fun a b : Int => decide (a < b)) (-1000)
    [("a", -7), ("b", -3), ("c", -3), ("d", -9)] = some "b" := by decide +kernel

/-- **Refutation for the pinned commit** (`gridIdFolder = false`): both parent rows get the id `"t"`
(the database rejects the second: a grid search is lost), and the cells' parent differs from the one
the database route records; with the repaired id neither happens. -/
theorem grid_parent_refuted_when_flag_off :
    ((scrape ltInt { gridIdFolder := false } false (layout witnessRuns) []).filter (·.isGrid)).map (·.id)
      = ["t", "t"] ∧
    ((scrape ltInt { gridIdFolder := false } false (layout witnessRuns) []).filter (!·.isGrid)).map (·.parent)
      = [some "t", some "t"] ∧
    ((direct ltInt witnessRuns).filter (!·.isGrid)).map (·.parent) = [some "G1", some "G2"] ∧
    ((scrape ltInt { gridIdFolder := true } false (layout witnessRuns) []).filter (!·.isGrid)).map (·.parent)
      = [some "G1", some "G2"] ∧
    ((scrape ltInt { gridIdFolder := true } false (layout witnessRuns) []).filter (·.isGrid)).map (·.id)
      = ["G1", "G2"] := by
  decide +kernel

/-- the witness meets the hypotheses of the layout theorems (two grid searches, one cell each) -/
example : WF witnessRuns := ⟨by decide +kernel, by decide +kernel, by decide +kernel, by decide +kernel⟩

example : (places witnessRuns).map (·.fit.ident) = ["S.M0.t", "S.M1.t"] ∧
    (gridsOf witnessRuns).map GridRun.ident = ["G1", "G2"] := by decide +kernel

/-! ## every search's persisted settings can be read back -/

section settings
open AF.SearchSig AF.Generated.C11

/-- **A chain of constructors that each take `**kwargs`, have no parameter without default and give
explicitly only keywords they name (or pop) accepts every set of keys** — whatever `search.json`
holds, `cls(**arguments)` binds. -/
theorem absorbing_chain_accepts_any_keys (chain : List Sig) (h : absorbing chain = true)
    (keys : List String) : call chain keys = .ok := by
  induction chain generalizing keys with
  | nil => simp [absorbing] at h
  | cons s rest ih =>
    simp only [absorbing, Bool.and_eq_true, List.isEmpty_iff, List.all_eq_true, Bool.or_eq_true] at h
    obtain ⟨⟨⟨hreq, hvar⟩, hexp⟩, hnext⟩ := h
    -- nothing passed on in `**kwargs` is also given explicitly
    have hnone : (forwarded s keys).find? (fun k => s.explicit.contains k) = none := by
      rw [List.find?_eq_none]
      intro k hk hc
      obtain ⟨_, _, hp, hd⟩ := mem_forwarded hk
      rcases hexp k (by simpa using hc) with h1 | h1
      · rw [hp] at h1; cases h1
      · rw [hd] at h1; cases h1
    unfold call
    simp only [hvar, if_true, hreq, List.find?_nil, hnone]
    by_cases hf : s.forwards = true
    · rw [if_pos hf] at hnext
      exact ih hnext _
    · have hfw : forwarded s keys = [] := by simp [forwarded, hf]
      rw [if_neg hf] at hnext
      rw [hfw, List.append_nil]
      simpa using hnext

/-- every search class of the library (constructor chains regenerated from the source) is of that kind -/
theorem every_search_class_accepts_any_keys : ∀ r ∈ searchSigTable, absorbing r.chain = true :=
  fun r hr => (searchSigTable_checked r hr).1

/-- **Every search's persisted settings can be read back**: `from_dict(to_dict(search))`, i.e.
`cls(**keys of search.json)`, binds for every search class. -/
theorem every_search_settings_read_back : ∀ r ∈ searchSigTable, readBack r = .ok :=
  fun r hr => absorbing_chain_accepts_any_keys r.chain (every_search_class_accepts_any_keys r hr) (keysOf r)

/-- so the identifier can be recomputed from `search.json` -/
theorem every_identifying_setting_persisted : ∀ r ∈ searchSigTable, ∀ f ∈ r.idf, f ∈ keysOf r :=
  fun r hr f hf => mem_keysOf.2 ⟨.inr hf, (searchSigTable_checked r hr).2.1 f hf⟩

/-- the model of `get_arguments` along the chain yields exactly the candidate keys extracted from
the library's `get_arguments` for each search class -/
theorem candidates_are_get_arguments : ∀ r ∈ searchSigTable,
    (∀ k ∈ r.candidates, k ∈ getArguments r.chain) ∧ (∀ k ∈ getArguments r.chain, k ∈ r.candidates) :=
  fun r hr => (searchSigTable_checked r hr).2.2

/-- the one cause of Python's *got multiple values for keyword argument* -/
theorem multiple_values_has_a_cause (chain : List Sig) (keys : List String) (c k : String)
    (h : call chain keys = .multiple c k) :
    ∃ s ∈ chain, s.forwards = true ∧ k ∈ s.explicit ∧ s.params.contains k = false ∧
      s.dropped.contains k = false := by
  induction chain generalizing keys with
  | nil => cases keys <;> simp [call] at h
  | cons s rest ih =>
    unfold call at h
    split at h
    · cases h
    · split at h
      · cases h
      · split at h
        · rename_i k' hk'
          cases h
          obtain ⟨hf, _, hpar, hdr⟩ := mem_forwarded (List.mem_of_find?_eq_some hk')
          exact ⟨s, List.mem_cons_self .., hf, by simpa using List.find?_some hk', hpar, hdr⟩
        · obtain ⟨s', hs', rest'⟩ := ih _ h
          exact ⟨s', List.mem_cons_of_mem _ hs', rest'⟩

/-- **Refutation for the pinned commit**: the pinned `Drawer` persists `number_of_cores`, gives it
explicitly and passes it on in `**kwargs` as well: its `search.json` cannot be read back; popping
the key (the repair) makes the same keys bind. -/
theorem pinned_drawer_settings_not_read_back :
    readBack pinnedDrawer = .multiple "NonLinearSearch" "number_of_cores" ∧
    "number_of_cores" ∈ keysOf pinnedDrawer ∧
    call (pinnedDrawer.chain.map fun s => if s.cls == "Drawer" then { s with dropped := ["number_of_cores"] } else s)
      (keysOf pinnedDrawer) = .ok := by
  decide +kernel

example : ∃ r ∈ searchSigTable, r.cls = "DynestyStatic" ∧ r.chain.length ≥ 4 ∧ "nlive" ∈ keysOf r ∧
    "session" ∉ keysOf r := by
  simp only [mem_keysOf]
  decide +kernel

/-- were its chain absorbing, its settings would read back -/
example : absorbing pinnedDrawer.chain = false :=
  Bool.eq_false_iff.2 fun h => Outcome.noConfusion
    ((absorbing_chain_accepts_any_keys _ h _).symm.trans pinned_drawer_settings_not_read_back.1)

example : call [⟨"K", ["a"], [], false, [], false, []⟩] ["a", "b"] = .unexpected "K" "b" ∧
    call [⟨"K", ["a", "b"], ["b"], true, [], false, []⟩] ["a"] = .missing "K" "b" := by decide +kernel

end settings

/-! ## loses nothing, file by file -/

section files
open AF.FitFiles AF.Generated.C11

/-- **Every file the writer produces is read by the accessor its content belongs to** (`mustReach`),
over the writer's files and the reader's lookups regenerated from the source: a writer / reader name
mismatch makes this fail. -/
theorem every_written_file_reaches_its_accessor :
    ∀ w ∈ writerFiles, ∀ c ∈ mustReach w, c ∈ consumers readerLookups w.file :=
  fun w hw => (writerFiles_checked.1 w hw).1

/-- the requirement is stated for every file written below a sub-folder (`files/`, `analyses/`) -/
theorem every_database_file_has_an_accessor : ∀ w ∈ writerFiles, w.file.dir ≠ [] → mustReach w ≠ [] :=
  fun w hw => (writerFiles_checked.1 w hw).2.1

/-- a written file no accessor looks at is a text rendering (or the `.identifier` the id is recomputed
instead of, C07) -/
theorem every_written_file_is_read_or_text :
    ∀ w ∈ writerFiles, consumers readerLookups w.file ≠ [] ∨ w.file ∈ textOnly :=
  fun w hw => (writerFiles_checked.1 w hw).2.2

/-- **Any user file reaches the database under its dotted name** `prefix.….name`, for every kind
(json, pickle, csv, fits) and any folders below `files/`. -/
theorem user_file_reaches_database (k : FitFiles.Kind) (pre : List String) (name : String) :
    ∃ f, pathFor writerFiles k pre name = some f ∧ k.accessor ∈ consumers readerLookups f ∧
      outputName f = ".".intercalate (pre ++ [name]) := by
  obtain ⟨e, _, hw, hl⟩ := writerFiles_checked.2 k (by cases k <;> simp)
  exact ⟨_, (user_file_collected hw hl pre name).1, (user_file_collected hw hl pre name).2,
    by simp [outputName]⟩

/-- … and is stored: `_add_files` keeps every collected json, pickle and fits file, and every
numeric table except those called `samples` / `latent_samples` (reserved for the samples). -/
theorem reserved_array_names (ls : List Lookup) (files : List (FileRef × Bool)) (n : String) :
    (n ∈ (dbFiles ls files).arrays ↔
      (n, true) ∈ collected ls "arrays" files ∧ n ≠ "samples" ∧ n ≠ "latent_samples") ∧
    (dbFiles ls files).jsons = (collected ls "jsons" files).map (·.1) ∧
    (dbFiles ls files).pickles = (collected ls "pickles" files).map (·.1) ∧
    (dbFiles ls files).hdus = (collected ls "hdus" files).map (·.1) := by
  refine ⟨?_, rfl, rfl, rfl⟩
  simp only [dbFiles, skippedArrays, List.mem_map, List.mem_filter, Bool.and_eq_true,
    Bool.not_eq_true', Prod.exists]
  constructor
  · rintro ⟨a, b, ⟨hm, hb, hs⟩, rfl⟩
    subst hb
    refine ⟨hm, ?_, ?_⟩ <;> (intro h; subst h; simp at hs)
  · rintro ⟨hm, h1, h2⟩
    exact ⟨n, true, ⟨hm, rfl, by simp [h1, h2]⟩, rfl⟩

example : (mustReach ⟨"save_all", ⟨["files"], "model", ".json"⟩⟩) = ["model", "samples", "jsons"] ∧
    "child_analyses/jsons" ∈ consumers readerLookups ⟨["analyses", "analysis_1", "files"], "ca", ".json"⟩ ∧
    consumers readerLookups ⟨["files"], "notes", ".txt"⟩ = [] := by decide +kernel

example : (dbFiles readerLookups [(⟨["files"], "samples", ".csv"⟩, false), (⟨["files", "sub"], "ua", ".csv"⟩, true),
    (⟨["files"], "uf", ".fits"⟩, false), (⟨["files", "a", "b"], "uj", ".json"⟩, false)]) =
    { jsons := ["a.b.uj"], arrays := ["sub.ua"], pickles := [], hdus := ["uf"] } := by decide +kernel

end files

end AF.C11
