import AFProofs.Lemmas.Prior
import AFProofs.Lemmas.PriorDbl
import AFProofs.Lemmas.PriorRandom
import AFProofs.Lemmas.DblArith

/-!
# C02 — priors map the unit interval monotonically onto their support

Theorems about the model `AFModel/Prior.lean` (the definitions the driver executes at `K := Float`), for
every linearly ordered field `K`, every family, all parameters and all unit values, with the special
functions as parameters satisfying `Lawful` (inverse pairs, monotone, ranges – `Lemmas/Prior.lean`); then the
part of `value_for` after the special functions, on doubles as data.

The statements over a field are for `0 < u < 1`: at the end points the real quantile of the normal families
is ±∞ and the uniform families reach their limits through `erfinv(±1) = ±inf`. The statements on doubles take
the closed interval `0 ≤ u ≤ v ≤ 1` for all four families (±inf is a double) and treat the two end points of
the uniform prior apart; there `erfinv`, `ndtr`, `exp` and `10 ** x` are non-decreasing parameters.
-/

open Lean Grind

namespace AF.C02
open AF.Prior

/-! ## the limit gate, for every number type – in particular for `Float`, the instance the driver runs -/

section Any
variable {K : Type} [Add K] [Sub K] [Mul K] [Div K] [LE K] [LT K] [DecidableLE K] [DecidableLT K]
  [OfNat K 0] [OfNat K 1] [OfNat K 10]
set_option linter.unusedSectionVars false

theorem gate_sound (L U raw v : K) (h : gate false L U raw = .ok v) : L ≤ v ∧ v ≤ U := by
  rw [gate_eq] at h
  obtain ⟨hc, rfl⟩ := Outcome.of_ite_eq_ok h
  exact hc.resolve_left Bool.false_ne_true

theorem gate_ignore (L U raw : K) : gate true L U raw = .ok raw := by
  rw [gate_eq, if_pos (Or.inl rfl)]

theorem gate_limit_iff (L U raw : K) : gate false L U raw = .limit ↔ ¬ (L ≤ raw ∧ raw ≤ U) := by
  rw [gate_eq]
  simp

theorem valueFor_limit_iff (S : Special K) (cfg : Cfg) (p : Params K) (u : K) :
    valueFor S cfg false p u = .limit ↔
      ¬ (p.lower ≤ rawValueFor S p u ∧ rawValueFor S p u ≤ p.upper) := by
  unfold valueFor
  rw [finish_eq]
  simp

theorem valueFor_ignore (S : Special K) (cfg : Cfg) (p : Params K) (u : K) :
    ∃ v, valueFor S cfg true p u = .ok v := by
  unfold valueFor
  rw [finish_eq, if_pos (Or.inl rfl)]
  exact ⟨_, rfl⟩

/-- The families without post-processing after the gate, on any number type, doubles with NaN included: a
returned value is inside the limits, in particular never NaN. -/
theorem valueFor_in_limits_nonuniform (S : Special K) (cfg : Cfg) (p : Params K) (hk : p.kind ≠ .uniform)
    (u v : K) (h : valueFor S cfg false p u = .ok v) : p.lower ≤ v ∧ v ≤ p.upper := by
  unfold valueFor at h
  rw [finish_eq, if_neg hk] at h
  obtain ⟨hc, rfl⟩ := Outcome.of_ite_eq_ok h
  exact hc.resolve_left Bool.false_ne_true

end Any

section Field
variable {K : Type} [Field K] [LE K] [LT K] [Std.IsLinearOrder K] [Std.LawfulOrderLT K] [OrderedRing K]
  [DecidableLE K] [DecidableLT K]
set_option linter.unusedSectionVars false

/-! ## agreement with the declared distribution's quantile function -/

theorem uniform_quantile (S : Special K) (h : Lawful S) (L U m s u : K) (h0 : 0 < u) (h1 : u < 1) :
    rawValueFor S ⟨.uniform, L, U, m, s⟩ u = L + u * (U - L) := by
  rw [raw_uniform, h.phi_phiInv u h0 h1, Semiring.add_comm]

/-- i.e. `value_for u = L * (U/L)^u` -/
theorem logUniform_quantile (S : Special K) (h : Lawful S) (L U m s u : K) (h0 : 0 < u) (h1 : u < 1) :
    0 < rawValueFor S ⟨.logUniform, L, U, m, s⟩ u ∧
    S.log10 (rawValueFor S ⟨.logUniform, L, U, m, s⟩ u) = S.log10 L + u * S.log10 (U / L) := by
  rw [raw_logUniform, h.phi_phiInv u h0 h1, h.log10_pow10]
  exact ⟨h.pow10_pos _, Semiring.add_comm _ _⟩

theorem gaussian_quantile (S : Special K) (L U m s u : K) :
    rawValueFor S ⟨.gaussian, L, U, m, s⟩ u = m + s * S.phiInv u :=
  raw_gaussian S L U m s u

theorem logGaussian_quantile (S : Special K) (h : Lawful S) (L U m s u : K) :
    0 < rawValueFor S ⟨.logGaussian, L, U, m, s⟩ u ∧
    S.log (rawValueFor S ⟨.logGaussian, L, U, m, s⟩ u) = m + s * S.phiInv u := by
  rw [raw_logGaussian, h.log_exp]
  exact ⟨h.exp_pos _, rfl⟩

/-! ## monotone -/

theorem rawValue_monotone (S : Special K) (h : Lawful S) (p : Params K) (hp : WF p) (u v : K)
    (h0 : 0 < u) (huv : u ≤ v) (h1 : v < 1) : rawValueFor S p u ≤ rawValueFor S p v :=
  invAll_mono S h _ (transforms_pos S h p hp) _ _ (baseValue_mono S h p hp u v h0 huv h1)

/-! ## inverted by the unit-value (CDF) function -/

theorem unit_of_value (S : Special K) (h : Lawful S) (p : Params K) (hp : WF p) (u : K)
    (h0 : 0 < u) (h1 : u < 1) : unitValueFor S p (rawValueFor S p u) = u := by
  unfold unitValueFor rawValueFor
  rw [fwdAll_invAll S h _ (transforms_pos S h p hp), baseCdf_baseValue S h p hp u h0 h1]

/-- The mapped value is the `u`-quantile of the declared distribution (`declaredCdf`: its CDF in closed form). -/
theorem value_is_declared_quantile (S : Special K) (h : Lawful S) (p : Params K) (hp : WF p) (u : K)
    (h0 : 0 < u) (h1 : u < 1) : declaredCdf S p (rawValueFor S p u) = u := by
  obtain ⟨kind, L, U, m, s⟩ := p
  cases kind
  · simp only [declaredCdf]
    rw [raw_uniform, h.phi_phiInv u h0 h1]
    exact shift_unshift u _ L (Std.ne_of_lt (OrderedAdd.sub_pos_iff.mpr hp)).symm
  · simp only [declaredCdf]
    rw [(logUniform_quantile S h L U m s u h0 h1).2, Semiring.add_comm]
    exact shift_unshift u _ _ (Std.ne_of_lt (logScale_pos S h L U hp.1 hp.2)).symm
  · exact (unit_gaussian S L U m s _).symm.trans (unit_of_value S h _ hp u h0 h1)
  · exact (unit_logGaussian S L U m s _).symm.trans (unit_of_value S h _ hp u h0 h1)

/-! ### and conversely, on the support -/

theorem value_of_unit_uniform (S : Special K) (h : Lawful S) (L U m s x : K) (hL : L < x) (hU : x < U) :
    rawValueFor S ⟨.uniform, L, U, m, s⟩ (unitValueFor S ⟨.uniform, L, U, m, s⟩ x) = x := by
  obtain ⟨t0, t1⟩ := unshift_mem_unit x L U hL hU
  rw [unit_uniform, phi_phiInv_clampUnit S h _ t0 t1, raw_uniform, h.phi_phiInv _ t0 t1]
  exact unshift_shift x _ L (Std.ne_of_lt (OrderedAdd.sub_pos_iff.mpr (Std.lt_trans hL hU))).symm

theorem value_of_unit_gaussian (S : Special K) (h : Lawful S) (L U m s x : K) (hs : 0 < s) :
    rawValueFor S ⟨.gaussian, L, U, m, s⟩ (unitValueFor S ⟨.gaussian, L, U, m, s⟩ x) = x := by
  rw [unit_gaussian, raw_gaussian, h.phiInv_phi, locScale_eq]
  exact unshift_shift x s m (Std.ne_of_lt hs).symm

theorem value_of_unit_logGaussian (S : Special K) (h : Lawful S) (L U m s x : K) (hs : 0 < s) (hx : 0 < x) :
    rawValueFor S ⟨.logGaussian, L, U, m, s⟩ (unitValueFor S ⟨.logGaussian, L, U, m, s⟩ x) = x := by
  rw [unit_logGaussian, raw_logGaussian, h.phiInv_phi, locScale_eq,
    unshift_shift _ s m (Std.ne_of_lt hs).symm, h.exp_log x hx]

/-- for the real `log10` the hypotheses `t0`, `t1` on the log-coordinate say `L < x < U` -/
theorem value_of_unit_logUniform (S : Special K) (h : Lawful S) (L U m s x : K) (hL : 0 < L) (hLU : L < U)
    (hx : 0 < x) (t0 : 0 < (S.log10 x - S.log10 L) / S.log10 (U / L))
    (t1 : (S.log10 x - S.log10 L) / S.log10 (U / L) < 1) :
    rawValueFor S ⟨.logUniform, L, U, m, s⟩ (unitValueFor S ⟨.logUniform, L, U, m, s⟩ x) = x := by
  rw [unit_logUniform, phi_phiInv_clampUnit S h _ t0 t1, raw_logUniform, h.phi_phiInv _ t0 t1,
    unshift_shift _ _ _ (Std.ne_of_lt (logScale_pos S h L U hL hLU)).symm, h.pow10_log10 x hx]

/-- `hlog` (true of the real logarithm) is the one law about `log10` that is not part of `Lawful`; that `log10`
is strictly increasing follows from `Lawful`. -/
theorem value_of_unit_logUniform_on_support (S : Special K) (h : Lawful S) (L U m s x : K) (hL : 0 < L)
    (hLx : L < x) (hxU : x < U) (hlog : S.log10 (U / L) = S.log10 U - S.log10 L) :
    rawValueFor S ⟨.logUniform, L, U, m, s⟩ (unitValueFor S ⟨.logUniform, L, U, m, s⟩ x) = x := by
  have hx : 0 < x := Std.lt_trans hL hLx
  have l1 := log10_strict_of_lawful S h L x hL hLx
  have l2 := log10_strict_of_lawful S h x U hx hxU
  have t := unshift_mem_unit _ _ _ l1 l2
  rw [← hlog] at t
  exact value_of_unit_logUniform S h L U m s x hL (Std.lt_trans hLx hxU) hx t.1 t.2

/-! ## limits: a value inside the limits or the limit exception -/

/-- `value_for` never silently returns an out-of-limit value: repaired code, every family, and no hypothesis
on `S` – in particular every rounding function. -/
theorem valueFor_in_limits (S : Special K) (p : Params K) (hLU : p.lower ≤ p.upper) (u v : K)
    (h : valueFor S { repaired := true } false p u = .ok v) : p.lower ≤ v ∧ v ≤ p.upper := by
  by_cases hk : p.kind = .uniform
  · unfold valueFor at h
    rw [finish_eq, if_pos hk] at h
    obtain ⟨_, rfl⟩ := Outcome.of_ite_eq_ok h
    exact clamp_mem _ _ _ hLU
  · exact valueFor_in_limits_nonuniform S _ p hk u v h

theorem valueFor_monotone (S : Special K) (h : Lawful S) (ignore : Bool) (p : Params K) (hp : WF p) (u v a b : K)
    (h0 : 0 < u) (huv : u ≤ v) (h1 : v < 1)
    (ha : valueFor S { repaired := true } ignore p u = .ok a)
    (hb : valueFor S { repaired := true } ignore p v = .ok b) : a ≤ b := by
  have hm := rawValue_monotone S h p hp u v h0 huv h1
  unfold valueFor at ha hb
  rw [finish_eq] at ha hb
  split at ha <;> cases ha
  split at hb <;> cases hb
  split
  · have hr := h.round_mono (decimalPlaces (p.upper - p.lower)) _ _ hm
    cases ignore
    · exact clamp_mono _ _ _ _ hr
    · exact hr
  · exact hm

/-! ## random draws -/

theorem random_in_limits (S : Special K) (p : Params K) (hLU : p.lower ≤ p.upper) (lo hi r v : K)
    (h : randomDraw S { repaired := true } p lo hi r = .ok v) : p.lower ≤ v ∧ v ≤ p.upper :=
  valueFor_in_limits S p hLU _ v h

/-- `Prior.random` for any family, in exact arithmetic: the unit value drawn lies between the unit limits and
`value_for` is non-decreasing, so the draw lies between the images of the unit limits (`hc` excludes the
rounding of the pinned commit's uniform prior). -/
theorem randomDraw_in_limits (S : Special K) (h : Lawful S) (cfg : Cfg) (p : Params K) (hp : WF p)
    (hc : p.kind = .uniform → cfg = { repaired := true }) (lo hi r : K) (hr0 : 0 ≤ r) (hr1 : r ≤ 1)
    (hab : unitValueFor S p p.lower ≤ unitValueFor S p p.upper)
    (hLa : p.lower ≤ rawValueFor S p (unitValueFor S p p.lower))
    (hbU : rawValueFor S p (unitValueFor S p p.upper) ≤ p.upper)
    (hlo : lo ≤ unitValueFor S p p.upper) (hhi : unitValueFor S p p.lower ≤ hi) (hlohi : lo ≤ hi) :
    ∃ v, randomDraw S cfg p lo hi r = .ok v ∧ p.lower ≤ v ∧ v ≤ p.upper := by
  unfold randomDraw
  obtain ⟨hwa, hwb⟩ := randomUnit_between lo hi _ _ r hab hlo hhi hlohi hr0 hr1
  have ha := (unitValueFor_mem S h p p.lower).1
  have hb := (unitValueFor_mem S h p p.upper).2
  generalize randomUnit lo hi (unitValueFor S p p.lower) (unitValueFor S p p.upper) r = w at hwa hwb
  have hin : p.lower ≤ rawValueFor S p w ∧ rawValueFor S p w ≤ p.upper :=
    ⟨Std.le_trans hLa (rawValue_monotone S h p hp _ w ha hwa (Std.lt_of_le_of_lt hwb hb)),
      Std.le_trans (rawValue_monotone S h p hp w _ (Std.lt_of_lt_of_le ha hwa) hwb hb) hbU⟩
  obtain ⟨v, hv⟩ : ∃ v, valueFor S cfg false p w = .ok v := by
    unfold valueFor
    rw [finish_eq, if_pos (Or.inr hin)]
    exact ⟨_, rfl⟩
  refine ⟨v, hv, ?_⟩
  by_cases hk : p.kind = .uniform
  · rw [hc hk] at hv
    exact valueFor_in_limits S p (Std.le_trans hin.1 hin.2) w v hv
  · exact valueFor_in_limits_nonuniform S cfg p hk w v hv

/-- In exact arithmetic `GaussianPrior.random` never raises. (With doubles this fails for limits far in a
tail – known finding `C02-random-raises-unresolvable-unit-limits`.) -/
theorem random_never_raises_gaussian (S : Special K) (h : Lawful S) (cfg : Cfg) (L U m s lo hi r : K)
    (hLU : L < U) (hs : 0 < s) (hr0 : 0 ≤ r) (hr1 : r ≤ 1)
    (hlo : lo ≤ unitValueFor S ⟨.gaussian, L, U, m, s⟩ U)
    (hhi : unitValueFor S ⟨.gaussian, L, U, m, s⟩ L ≤ hi) (hlohi : lo ≤ hi) :
    ∃ v, randomDraw S cfg ⟨.gaussian, L, U, m, s⟩ lo hi r = .ok v ∧ L ≤ v ∧ v ≤ U := by
  refine randomDraw_in_limits S h cfg ⟨.gaussian, L, U, m, s⟩ ⟨hLU, hs⟩ (fun hk => nomatch hk) lo hi r hr0 hr1
    ?_ ?_ ?_ hlo hhi hlohi
  · rw [unit_gaussian, unit_gaussian]
    exact h.phi_mono _ _ (unshift_mono L U s m hs (Std.le_of_lt hLU))
  · rw [value_of_unit_gaussian S h L U m s L hs]; exact Std.le_refl L
  · rw [value_of_unit_gaussian S h L U m s U hs]; exact Std.le_refl U

/-- The unit limits between which `Prior.random` draws are the clamp epsilon of `transform.ndtri` (1e-14) and
its complement, not 0 and 1. -/
theorem unit_limits_uniform (S : Special K) (h : Lawful S) (L U m s : K) (hLU : L < U) :
    unitValueFor S ⟨.uniform, L, U, m, s⟩ L = S.eps ∧ unitValueFor S ⟨.uniform, L, U, m, s⟩ U = 1 - S.eps := by
  have e0 : (L - L) / (U - L) = 0 := by grind
  have e1 : (U - L) / (U - L) = 1 := by grind
  rw [unit_uniform, unit_uniform, e0, e1]
  exact phi_phiInv_clampUnit_ends S h

/-- The two uniform families: the unit limits are `eps` and `1 - eps`, and every unit value strictly inside the
unit interval maps inside the limits. -/
theorem randomDraw_in_limits_of_eps (S : Special K) (h : Lawful S) (cfg : Cfg) (p : Params K) (hp : WF p)
    (hc : p.kind = .uniform → cfg = { repaired := true }) (lo hi r : K) (hr0 : 0 ≤ r) (hr1 : r ≤ 1)
    (hu : unitValueFor S p p.lower = S.eps ∧ unitValueFor S p p.upper = 1 - S.eps)
    (hin : ∀ u, 0 < u → u < 1 → p.lower ≤ rawValueFor S p u ∧ rawValueFor S p u ≤ p.upper)
    (heps : S.eps ≤ 1 - S.eps) (hlo : lo ≤ 1 - S.eps) (hhi : S.eps ≤ hi) (hlohi : lo ≤ hi) :
    ∃ v, randomDraw S cfg p lo hi r = .ok v ∧ p.lower ≤ v ∧ v ≤ p.upper := by
  have p0 := h.eps_pos
  have p1 : 1 - S.eps < 1 := by grind
  have key := randomDraw_in_limits S h cfg p hp hc lo hi r hr0 hr1
  rw [hu.1, hu.2] at key
  exact key heps (hin _ p0 h.eps_lt_one).1 (hin _ (Std.lt_of_lt_of_le p0 heps) p1).2 hlo hhi hlohi

/-- In exact arithmetic `UniformPrior.random(lo, hi)` never raises whenever the requested unit interval meets
`[eps, 1 - eps]` (`heps` holds for the code's 1e-14). -/
theorem random_never_raises_uniform (S : Special K) (h : Lawful S) (L U m s lo hi r : K)
    (hLU : L < U) (heps : S.eps ≤ 1 - S.eps) (hr0 : 0 ≤ r) (hr1 : r ≤ 1)
    (hlo : lo ≤ 1 - S.eps) (hhi : S.eps ≤ hi) (hlohi : lo ≤ hi) :
    ∃ v, randomDraw S { repaired := true } ⟨.uniform, L, U, m, s⟩ lo hi r = .ok v ∧ L ≤ v ∧ v ≤ U :=
  randomDraw_in_limits_of_eps S h { repaired := true } ⟨.uniform, L, U, m, s⟩ hLU (fun _ => rfl) lo hi r hr0 hr1
    (unit_limits_uniform S h L U m s hLU) (fun u => uniform_raw_in_limits S h L U m s u hLU) heps hlo hhi hlohi

/-- `LogUniformPrior.random(lo, hi)`: the same, given `hlog`. -/
theorem random_never_raises_logUniform (S : Special K) (h : Lawful S) (cfg : Cfg) (L U m s lo hi r : K)
    (hL : 0 < L) (hLU : L < U) (hlog : S.log10 (U / L) = S.log10 U - S.log10 L)
    (heps : S.eps ≤ 1 - S.eps) (hr0 : 0 ≤ r) (hr1 : r ≤ 1)
    (hlo : lo ≤ 1 - S.eps) (hhi : S.eps ≤ hi) (hlohi : lo ≤ hi) :
    ∃ v, randomDraw S cfg ⟨.logUniform, L, U, m, s⟩ lo hi r = .ok v ∧ L ≤ v ∧ v ≤ U :=
  randomDraw_in_limits_of_eps S h cfg ⟨.logUniform, L, U, m, s⟩ ⟨hL, hLU⟩ (fun hk => nomatch hk) lo hi r hr0 hr1
    (unitLimits_logUniform S h L U m s hL hLU hlog) (fun u => logUniform_raw_in_limits S h L U m s u hL hLU hlog)
    heps hlo hhi hlohi

/-- `LogGaussianPrior.random(lo, hi)` for a positive lower limit. (A lower limit 0 has unit limit
`Φ(log 0) = Φ(-∞) = 0`, which only exists on doubles; on doubles the statement fails for limits far in a
tail - the same known finding as for the Gaussian prior.) -/
theorem random_never_raises_logGaussian (S : Special K) (h : Lawful S) (cfg : Cfg) (L U m s lo hi r : K)
    (hL : 0 < L) (hLU : L < U) (hs : 0 < s) (hr0 : 0 ≤ r) (hr1 : r ≤ 1)
    (hlo : lo ≤ unitValueFor S ⟨.logGaussian, L, U, m, s⟩ U)
    (hhi : unitValueFor S ⟨.logGaussian, L, U, m, s⟩ L ≤ hi) (hlohi : lo ≤ hi) :
    ∃ v, randomDraw S cfg ⟨.logGaussian, L, U, m, s⟩ lo hi r = .ok v ∧ L ≤ v ∧ v ≤ U := by
  refine randomDraw_in_limits S h cfg ⟨.logGaussian, L, U, m, s⟩ ⟨hLU, hs⟩ (fun hk => nomatch hk) lo hi r
    hr0 hr1 ?_ ?_ ?_ hlo hhi hlohi
  · rw [unit_logGaussian, unit_logGaussian]
    exact h.phi_mono _ _ (unshift_mono _ _ s m hs (log_mono_of_lawful S h L U hL (Std.le_of_lt hLU)))
  · rw [value_of_unit_logGaussian S h L U m s L hs hL]; exact Std.le_refl L
  · rw [value_of_unit_logGaussian S h L U m s U hs (Std.lt_trans hL hLU)]; exact Std.le_refl U

end Field

/-- the gate theorems instantiate at the driver's own instance (`Float`, `floatSpecial`) -/
example (cfg : Cfg) (p : Params Float) (hk : p.kind ≠ .uniform) (u v : Float)
    (h : valueFor floatSpecial cfg false p u = .ok v) : p.lower ≤ v ∧ v ≤ p.upper :=
  valueFor_in_limits_nonuniform floatSpecial cfg p hk u v h

/-! ## non-vacuity: the hypotheses are met by concrete non-trivial inputs (over `Rat`) -/

example : rawValueFor ratSpecial ⟨.uniform, 2, 5, 0, 0⟩ (1 / 4) = 2 + 1 / 4 * (5 - 2) :=
  uniform_quantile ratSpecial ratSpecial_lawful 2 5 0 0 (1 / 4) (by decide +kernel) (by decide +kernel)

example : WF (⟨.logUniform, 1 / 1000, 10, 0, 0⟩ : Params Rat) := ⟨by decide +kernel, by decide +kernel⟩

example : unitValueFor ratSpecial ⟨.logUniform, 1 / 1000, 10, 0, 0⟩
    (rawValueFor ratSpecial ⟨.logUniform, 1 / 1000, 10, 0, 0⟩ (3 / 4)) = 3 / 4 :=
  unit_of_value ratSpecial ratSpecial_lawful ⟨.logUniform, 1 / 1000, 10, 0, 0⟩ ⟨by decide +kernel, by decide +kernel⟩ _ (by decide +kernel) (by decide +kernel)

example : rawValueFor ratSpecial ⟨.gaussian, -1, 3, 1, 2⟩ (1 / 4)
    ≤ rawValueFor ratSpecial ⟨.gaussian, -1, 3, 1, 2⟩ (3 / 4) :=
  rawValue_monotone ratSpecial ratSpecial_lawful ⟨.gaussian, -1, 3, 1, 2⟩ ⟨by decide +kernel, by decide +kernel⟩ _ _ (by decide +kernel) (by decide +kernel) (by decide +kernel)

example : declaredCdf ratSpecial ⟨.logGaussian, 0, 100, 1, 2⟩
    (rawValueFor ratSpecial ⟨.logGaussian, 0, 100, 1, 2⟩ (1 / 3)) = 1 / 3 :=
  value_is_declared_quantile ratSpecial ratSpecial_lawful ⟨.logGaussian, 0, 100, 1, 2⟩
    ⟨by decide +kernel, by decide +kernel⟩ _ (by decide +kernel) (by decide +kernel)

/-- the gate is not vacuous: a Gaussian prior with limits rejects a tail value and accepts the median -/
example : valueFor ratSpecial {} false ⟨.gaussian, 0, 2, 1, 2⟩ (1 / 2) = .ok 1 := by decide +kernel
example : valueFor ratSpecial {} false ⟨.gaussian, 0, 2, 1, 2⟩ (1 / 10) = .limit := by decide +kernel

example : ∃ v, randomDraw ratSpecial {} ⟨.gaussian, 0, 2, 1, 2⟩ 0 1 (1 / 3) = .ok v ∧ (0 : Rat) ≤ v ∧ v ≤ 2 :=
  random_never_raises_gaussian ratSpecial ratSpecial_lawful {} 0 2 1 2 0 1 (1 / 3)
    (by decide +kernel) (by decide +kernel) (by decide +kernel) (by decide +kernel)
    (by rw [unit_gaussian]; exact Std.le_of_lt (ratSpecial_lawful.phi_pos _))
    (by rw [unit_gaussian]; exact Std.le_of_lt (ratSpecial_lawful.phi_lt_one _)) (by decide +kernel)

example : ∃ v, randomDraw ratSpecial {} ⟨.uniform, 2, 5, 0, 0⟩ 0 1 (1 / 3) = .ok v ∧ (2 : Rat) ≤ v ∧ v ≤ 5 :=
  random_never_raises_uniform ratSpecial ratSpecial_lawful 2 5 0 0 0 1 (1 / 3)
    (by decide +kernel) (by decide +kernel) (by decide +kernel) (by decide +kernel) (by decide +kernel) (by decide +kernel) (by decide +kernel)

/-- the log-coordinate hypothesis is met by the closed-form instance for a lower limit 1 -/
example : ∃ v, randomDraw ratSpecial {} ⟨.logUniform, 1, 10, 0, 0⟩ 0 1 (2 / 3) = .ok v ∧ (1 : Rat) ≤ v ∧ v ≤ 10 :=
  random_never_raises_logUniform ratSpecial ratSpecial_lawful {} 1 10 0 0 0 1 (2 / 3)
    (by decide +kernel) (by decide +kernel) (by decide +kernel) (by decide +kernel) (by decide +kernel) (by decide +kernel)
    (by decide +kernel) (by decide +kernel) (by decide +kernel)

example : ∃ v, randomDraw ratSpecial {} ⟨.logGaussian, 1 / 2, 8, 1, 2⟩ 0 1 (1 / 3) = .ok v ∧ (1 / 2 : Rat) ≤ v ∧ v ≤ 8 :=
  random_never_raises_logGaussian ratSpecial ratSpecial_lawful {} (1 / 2) 8 1 2 0 1 (1 / 3)
    (by decide +kernel) (by decide +kernel) (by decide +kernel) (by decide +kernel) (by decide +kernel)
    (by rw [unit_logGaussian]; exact Std.le_of_lt (ratSpecial_lawful.phi_pos _))
    (by rw [unit_logGaussian]; exact Std.le_of_lt (ratSpecial_lawful.phi_lt_one _)) (by decide +kernel)

example : rawValueFor ratSpecial ⟨.logUniform, 1, 10, 0, 0⟩ (unitValueFor ratSpecial ⟨.logUniform, 1, 10, 0, 0⟩ 3) = 3 :=
  value_of_unit_logUniform_on_support ratSpecial ratSpecial_lawful 1 10 0 0 3 (by decide +kernel) (by decide +kernel) (by decide +kernel)
    (by decide +kernel)

/-! ## rounding of `UniformPrior.value_for` on doubles

`cfg.repaired = true` (after `fixes/C02-uniform-rounding.patch`): covered by `valueFor_in_limits` and
`valueFor_monotone` above, for *every* rounding function. For the pinned commit (`repaired = false`:
numpy's `round(x, 14)` applied after the gate, no clamp) the statement is false; the model functions the
driver runs are evaluated by the kernel on the witnesses. -/

/-- `0.100000000000004`, `0.2`, `1e300` as bit patterns -/
def wL : Float := Float.ofBits 0x3FB9999999999ABA
def wU : Float := Float.ofBits 0x3FC999999999999A
def w1e300 : Float := Float.ofBits 0x7E37E43C8800759C

/-- Pinned commit, only what can be said: a value is returned iff the raw value passed the gate
(nothing about the rounded value). -/
theorem uniform_legacy_partial (S : Special Float) (L U m s u : Float) :
    (∃ v, valueFor S { repaired := false } false ⟨.uniform, L, U, m, s⟩ u = .ok v) ↔
      inLimits L U (rawValueFor S ⟨.uniform, L, U, m, s⟩ u) = true := by
  unfold valueFor finish gate
  by_cases hc : inLimits L U (rawValueFor S ⟨.uniform, L, U, m, s⟩ u) = true
  · simp [hc]
  · simp [hc]

/-- Pinned commit: the raw value `L = 0.100000000000004` passes the gate of `UniformPrior(L, 0.2)` and is then
rounded to `0.1 < L`. -/
theorem uniform_legacy_refuted_offgrid :
    inLimits wL wU wL = true ∧
    finish floatSpecial { repaired := false } false ⟨.uniform, wL, wU, 0, 0⟩ wL
      = .ok (Float.ofBits 0x3FB999999999999A) ∧
    (Float.ofBits 0x3FB999999999999A) < wL := by
  decide +kernel

/-- Pinned commit: `UniformPrior(0, 1e300)`, raw value `5e299` is "rounded" to `inf`. -/
theorem uniform_legacy_refuted_overflow :
    finish floatSpecial { repaired := false } false ⟨.uniform, 0, w1e300, 0, 0⟩ (w1e300 / 2)
      = .ok (Float.ofBits 0x7FF0000000000000) := by
  decide +kernel

/-- The repaired code on the same inputs: inside the limits. -/
theorem uniform_repaired_on_witnesses :
    finish floatSpecial { repaired := true } false ⟨.uniform, wL, wU, 0, 0⟩ wL = .ok wL ∧
    finish floatSpecial { repaired := true } false ⟨.uniform, 0, w1e300, 0, 0⟩ (w1e300 / 2)
      = .ok (w1e300 / 2) := by
  decide +kernel

/-- The repaired `UniformPrior` rounds to at least the historical 14 and at most 323 decimal places
(CPython's `round` is the identity beyond), and to exactly 14 places for priors at least 1 wide. -/
theorem decimal_places_range {K : Type} [Mul K] [LT K] [DecidableLT K] [OfNat K 1] [OfNat K 10] (w : K) :
    14 ≤ decimalPlaces w ∧ decimalPlaces w ≤ 323 :=
  decimalPlacesGo_range w 14 309 (by decide)

theorem decimal_places_wide {K : Type} [Mul K] [LT K] [DecidableLT K] [OfNat K 1] [OfNat K 10] (w : K)
    (h : ¬ w < 1) : decimalPlaces w = 14 := by
  simp [decimalPlaces, decimalPlacesGo, h]

example : decimalPlaces (Float.ofBits 0x3FE0000000000000) = 15 := by decide +kernel

/-! ### the integer step of the exact rounding `pyRound`

`pyRound n x` (the repaired code's `round(float, n)`) rounds the exact rational `m·10ⁿ / 2^(-e)` of the
double with `divRoundHalfEven` and converts `k / 10ⁿ` to the nearest double. -/

theorem rounding_step_monotone (a b d : Nat) (hd : 0 < d) (h : a ≤ b) :
    divRoundHalfEven a d ≤ divRoundHalfEven b d :=
  divRoundHalfEven_mono a b d h

/-- `|k * d - a| ≤ d / 2` -/
theorem rounding_step_error (a d : Nat) (hd : 0 < d) :
    2 * (divRoundHalfEven a d * d) ≤ 2 * a + d ∧ 2 * a ≤ 2 * (divRoundHalfEven a d * d) + d := by
  have ea := Nat.div_add_mod a d
  have ra := Nat.mod_lt a hd
  unfold divRoundHalfEven
  simp only
  have e : (a / d + 1) * d = d * (a / d) + d := by rw [Nat.add_mul, Nat.mul_comm]; simp
  have e' : (a / d) * d = d * (a / d) := Nat.mul_comm _ _
  split
  · rw [e]; omega
  · rw [e']; omega

theorem rounding_step_fixes_grid (k d : Nat) (hd : 0 < d) : divRoundHalfEven (k * d) d = k :=
  divRoundHalfEven_exact k d hd

example : divRoundHalfEven 25 10 = 2 ∧ divRoundHalfEven 35 10 = 4 ∧ divRoundHalfEven 26 10 = 3 := by decide

/-- `1e-15`, `2e-15`, `1.5e-15` -/
def w1 : Float := Float.ofBits 0x3CD203AF9EE75616
def w2 : Float := Float.ofBits 0x3CE203AF9EE75616
def w15 : Float := Float.ofBits 0x3CDB05876E5B0120

/-- Pinned commit: `UniformPrior(1e-15, 2e-15)` maps the in-limit raw value `1.5e-15` to `0.0`; the repaired
code (29 decimal places for this width) returns it inside the limits. -/
theorem uniform_legacy_refuted_tiny_range :
    inLimits w1 w2 w15 = true ∧
    finish floatSpecial { repaired := false } false ⟨.uniform, w1, w2, 0, 0⟩ w15 = .ok (Float.ofBits 0) ∧
    decimalPlaces (w2 - w1) = 29 ∧
    (∃ v, finish floatSpecial { repaired := true } false ⟨.uniform, w1, w2, 0, 0⟩ w15 = .ok v ∧
      w1 < v ∧ v < w2) := by
  refine ⟨by decide +kernel, by decide +kernel, by decide +kernel, ?_⟩
  exact ⟨Float.ofBits 0x3CDB05876E5B0120, by decide +kernel⟩

/-! ## the float layer as data: limit gate, exact rounding and clamp on doubles

`Float` comparisons are opaque to the logic, so the statements above say nothing for-all about
`finish floatSpecial …`. `AFModel/PriorDbl.lean` models a double as data (`Dbl`: sign + magnitude bits, IEEE
order incl. NaN, ±0, ±inf) and the part of `value_for` after `message.value_for` on it (`finishD`: the same
generic `gate` and `clamp`, and `pyRoundD` = CPython `round(x, n)`, through which the `Float` rounding
`pyRound` is *defined*). The driver runs `finishD` beside `finish` on every raw value and the harness
compares both with the real code bit for bit. -/

/-- the rounding the driver's `Float` instance uses is `pyRoundD` between the bit casts -/
theorem float_round_is_pyRoundD (n : Nat) (x : Float) :
    floatSpecial.round n x = (pyRoundD n (Dbl.ofFloat x)).toFloat := rfl

theorem double_order_is_exact_order (a b : Dbl) (ha : a.isFinite = true) (hb : b.isFinite = true) :
    a ≤ b ↔ a.exact ≤ b.exact :=
  Dbl.le_iff_exact a b ha hb

/-- NaN is excluded by `a ≤ b`; ±0 and ±inf are included. -/
theorem round_monotone_on_doubles (n : Nat) (a b : Dbl) (h : a ≤ b) : pyRoundD n a ≤ pyRoundD n b :=
  pyRoundD_mono n a b h

/-- The exact rounding cannot overflow (numpy's multiply-rint-divide of the pinned commit did:
`uniform_legacy_refuted_overflow`). -/
theorem round_monotone_exact (n : Nat) (a b : Dbl) (ha : a.isFinite = true) (hb : b.isFinite = true)
    (h : a.exact ≤ b.exact) :
    (pyRoundD n a).isFinite = true ∧ (pyRoundD n b).isFinite = true ∧
      (pyRoundD n a).exact ≤ (pyRoundD n b).exact := by
  have fa := pyRoundD_finite n a ha
  have fb := pyRoundD_finite n b hb
  refine ⟨fa, fb, ?_⟩
  rw [← Dbl.le_iff_exact _ _ fa fb]
  exact pyRoundD_mono n a b ((Dbl.le_iff_exact a b ha hb).mpr h)

/-- Never an out-of-limit value on doubles, after rounding and clamp for the uniform prior; in particular never
NaN. -/
theorem finishD_in_limits (uniform : Bool) (places : Nat) (L U raw v : Dbl)
    (h : finishD uniform false places L U raw = .ok v) : L ≤ v ∧ v ≤ U := by
  rw [finishD_eq] at h
  obtain ⟨hc, rfl⟩ := Outcome.of_ite_eq_ok h
  obtain ⟨hL, hU⟩ := hc.resolve_left Bool.false_ne_true
  split
  · exact clampD_mem L U _ (Dbl.le_trans L raw U hL hU) (pyRoundD_notNaN places raw hL.2.1)
  · exact ⟨hL, hU⟩

/-- the right-hand side holds of a NaN `raw` -/
theorem finishD_limit_iff (uniform : Bool) (places : Nat) (L U raw : Dbl) :
    finishD uniform false places L U raw = .limit ↔ ¬ (L ≤ raw ∧ raw ≤ U) := by
  rw [finishD_eq]
  simp

theorem finishD_ignore (uniform : Bool) (places : Nat) (L U raw : Dbl) :
    ∃ v, finishD uniform true places L U raw = .ok v := by
  rw [finishD_eq, if_pos (Or.inl rfl)]
  exact ⟨_, rfl⟩

theorem finishD_monotone (uniform ignore : Bool) (places : Nat) (L U raw raw2 a b : Dbl) (h : raw ≤ raw2)
    (ha : finishD uniform ignore places L U raw = .ok a)
    (hb : finishD uniform ignore places L U raw2 = .ok b) : a ≤ b := by
  rw [finishD_eq] at ha hb
  split at ha <;> cases ha
  split at hb <;> cases hb
  rename_i hc _
  split
  · have hr := pyRoundD_mono places _ _ h
    cases ignore
    · obtain ⟨hL, hU⟩ := hc.resolve_left Bool.false_ne_true
      exact clampD_mono L U _ _ (Dbl.le_trans L raw U hL hU) hr
    · exact hr
  · exact h

/-- `q` stands for the raw quantile (scipy/libm: `erfinv`, `ndtr`, `log10`, `power`, `exp` and the shift/scale
arithmetic): that it is non-decreasing is the only hypothesis left about the double-precision layer. -/
theorem valueForD_monotone (q : Dbl → Dbl) (hq : ∀ u v, u ≤ v → q u ≤ q v)
    (uniform ignore : Bool) (places : Nat) (L U u v a b : Dbl) (huv : u ≤ v)
    (ha : finishD uniform ignore places L U (q u) = .ok a)
    (hb : finishD uniform ignore places L U (q v) = .ok b) : a ≤ b :=
  finishD_monotone uniform ignore places L U (q u) (q v) a b (hq u v huv) ha hb

/-- the doubles `0.100000000000004`, `0.2` as data -/
def dL : Dbl := Dbl.ofBits 0x3FB9999999999ABA
def dU : Dbl := Dbl.ofBits 0x3FC999999999999A

/-- the off-grid lower limit (the pinned commit returned `0.1 < L` here) is returned inside the limits; a value
above the upper limit raises -/
example : finishD true false 15 dL dU dL = .ok dL ∧ dL ≤ dL ∧ dL ≤ dU := by decide +kernel
example : finishD true false 15 dL dU (Dbl.ofBits 0x3FD0000000000000) = .limit := by decide +kernel
example : dL ≤ dU ∧ pyRoundD 1 dL ≤ pyRoundD 1 dU ∧ (pyRoundD 1 dU).toBits = 0x3FC999999999999A :=
  ⟨by decide +kernel, round_monotone_on_doubles 1 dL dU (by decide +kernel), by decide +kernel⟩
/-- NaN never passes the gate; `-0.0` and `0.0` compare equal -/
example : finishD false false 14 dL dU (Dbl.ofBits 0x7FF8000000000000) = .limit := by decide +kernel
example : Dbl.ofBits 0x8000000000000000 ≤ Dbl.ofBits 0 ∧ Dbl.ofBits 0 ≤ Dbl.ofBits 0x8000000000000000 := by
  decide +kernel
/-- the model's rounding on `Float` and on data agree on the witness (`round(0.100000000000004, 14)`) -/
example : (pyRound 14 wL).toBits = (pyRoundD 14 dL).toBits.toUInt64 := by decide +kernel

/-! ## the shift/scale arithmetic of the transform stacks on doubles

`AFModel/DblArith.lean` computes IEEE `+ − × ÷` (round to nearest even) on `Dbl` exactly; with them the
arithmetic around the special functions is inside the logic: `argD u = 1 - 2.0 * (1.0 - u)` (what
`NormalMessage.value_for` hands to `erfinv`), `rawGaussianD = mean + (sigma * sqrt(2) * inv)`,
`rawUniformD = t * (U - L) + L`. They are compared bit for bit with Python's float arithmetic and with
`message.value_for` (given scipy's intermediate values) on every run. What remains a hypothesis is only
that scipy's `erfinv` (on `[-1, 1]`), `ndtr` and, for the log families, numpy's `exp` and `10 ** x` are
non-decreasing. -/

/-- `argD` maps the unit interval into `[-1, 1]`, so `erfinv` is only ever called inside its domain. -/
theorem argD_monotone (u v : Dbl) (hu0 : Dbl.zero ≤ u) (huv : u ≤ v) (hv1 : v ≤ Dbl.one) :
    argD u ≤ argD v ∧ Dbl.neg' Dbl.one ≤ argD u ∧ argD v ≤ Dbl.one := by
  have e0 : argD Dbl.zero = Dbl.neg' Dbl.one := by decide +kernel
  have e1 : argD Dbl.one = Dbl.one := by decide +kernel
  refine ⟨argD_mono u v huv, ?_, ?_⟩
  · rw [← e0]; exact argD_mono _ _ hu0
  · rw [← e1]; exact argD_mono _ _ hv1

theorem rawGaussianD_monotone (mean sigma inv inv2 : Dbl) (hm : mean.isFinite = true)
    (hc : (Dbl.mul sigma Dbl.sqrt2).isFinite = true) (hc0 : 0 < (Dbl.mul sigma Dbl.sqrt2).mag)
    (hcn : (Dbl.mul sigma Dbl.sqrt2).neg = false) (h : inv ≤ inv2) :
    rawGaussianD mean sigma inv ≤ rawGaussianD mean sigma inv2 := by
  unfold rawGaussianD
  exact Dbl.add_mono_right mean _ _ hm
    (Dbl.mul_pos_left_mono _ inv inv2 ((Dbl.finite_iff _).mp hc) hc0 hcn h)

/-- `U - L > 0` is proved, not assumed: distinct doubles have a non-zero difference. -/
theorem rawUniformD_monotone (L U t t2 : Dbl) (hL : L.isFinite = true) (hU : U.isFinite = true)
    (hLU : L < U) (hw : (Dbl.sub U L).isFinite = true) (h : t ≤ t2) :
    rawUniformD t L U ≤ rawUniformD t2 L U := by
  obtain ⟨wn, w0⟩ := Dbl.sub_pos L U hL hU hLU
  unfold rawUniformD
  exact Dbl.add_mono_left _ _ L hL
    (Dbl.mul_pos_right_mono _ t t2 ((Dbl.finite_iff _).mp hw) w0 wn h)

/-- what every family computes first -/
theorem erfinv_argD_monotone (erfinv : Dbl → Dbl)
    (herf : ∀ x y, Dbl.neg' Dbl.one ≤ x → x ≤ y → y ≤ Dbl.one → erfinv x ≤ erfinv y)
    (u v : Dbl) (hu0 : Dbl.zero ≤ u) (huv : u ≤ v) (hv1 : v ≤ Dbl.one) :
    erfinv (argD u) ≤ erfinv (argD v) := by
  obtain ⟨h1, h2, h3⟩ := argD_monotone u v hu0 huv hv1
  exact herf _ _ h2 h1 h3

/-- the base message `NormalMessage(0, 1)` of the two uniform families -/
theorem stdGaussianD_monotone (inv inv2 : Dbl) (h : inv ≤ inv2) :
    rawGaussianD Dbl.zero Dbl.one inv ≤ rawGaussianD Dbl.zero Dbl.one inv2 :=
  rawGaussianD_monotone Dbl.zero Dbl.one inv inv2 (by decide +kernel) (by decide +kernel) (by decide +kernel)
    (by decide +kernel) h

/-- `GaussianPrior.value_for` on doubles, end to end (argument arithmetic → `erfinv` → mean/sigma
arithmetic → limit gate). -/
theorem gaussian_value_for_monotone_on_doubles (erfinv : Dbl → Dbl)
    (herf : ∀ x y, Dbl.neg' Dbl.one ≤ x → x ≤ y → y ≤ Dbl.one → erfinv x ≤ erfinv y)
    (mean sigma L U : Dbl) (hm : mean.isFinite = true)
    (hc : (Dbl.mul sigma Dbl.sqrt2).isFinite = true) (hc0 : 0 < (Dbl.mul sigma Dbl.sqrt2).mag)
    (hcn : (Dbl.mul sigma Dbl.sqrt2).neg = false)
    (ignore : Bool) (places : Nat) (u v a b : Dbl) (hu0 : Dbl.zero ≤ u) (huv : u ≤ v) (hv1 : v ≤ Dbl.one)
    (ha : finishD false ignore places L U (rawGaussianD mean sigma (erfinv (argD u))) = .ok a)
    (hb : finishD false ignore places L U (rawGaussianD mean sigma (erfinv (argD v))) = .ok b) : a ≤ b :=
  finishD_monotone false ignore places L U _ _ a b
    (rawGaussianD_monotone mean sigma _ _ hm hc hc0 hcn (erfinv_argD_monotone erfinv herf u v hu0 huv hv1))
    ha hb

/-- `UniformPrior.value_for` on doubles, end to end (`NormalMessage(0, 1).value_for` → `ndtr` →
`t * (U - L) + L` → limit gate → `round` → clamp). -/
theorem uniform_value_for_monotone_on_doubles (erfinv ndtr : Dbl → Dbl)
    (herf : ∀ x y, Dbl.neg' Dbl.one ≤ x → x ≤ y → y ≤ Dbl.one → erfinv x ≤ erfinv y)
    (hndtr : ∀ x y, x ≤ y → ndtr x ≤ ndtr y)
    (L U : Dbl) (hL : L.isFinite = true) (hU : U.isFinite = true) (hLU : L < U)
    (hw : (Dbl.sub U L).isFinite = true)
    (ignore : Bool) (places : Nat) (u v a b : Dbl) (hu0 : Dbl.zero ≤ u) (huv : u ≤ v) (hv1 : v ≤ Dbl.one)
    (ha : finishD true ignore places L U
      (rawUniformD (ndtr (rawGaussianD Dbl.zero Dbl.one (erfinv (argD u)))) L U) = .ok a)
    (hb : finishD true ignore places L U
      (rawUniformD (ndtr (rawGaussianD Dbl.zero Dbl.one (erfinv (argD v)))) L U) = .ok b) : a ≤ b :=
  finishD_monotone true ignore places L U _ _ a b
    (rawUniformD_monotone L U _ _ hL hU hLU hw
      (hndtr _ _ (stdGaussianD_monotone _ _ (erfinv_argD_monotone erfinv herf u v hu0 huv hv1)))) ha hb

/-- `LogGaussianPrior.value_for` on doubles, end to end. -/
theorem logGaussian_value_for_monotone_on_doubles (erfinv exp : Dbl → Dbl)
    (herf : ∀ x y, Dbl.neg' Dbl.one ≤ x → x ≤ y → y ≤ Dbl.one → erfinv x ≤ erfinv y)
    (hexp : ∀ x y, x ≤ y → exp x ≤ exp y)
    (mean sigma L U : Dbl) (hm : mean.isFinite = true)
    (hc : (Dbl.mul sigma Dbl.sqrt2).isFinite = true) (hc0 : 0 < (Dbl.mul sigma Dbl.sqrt2).mag)
    (hcn : (Dbl.mul sigma Dbl.sqrt2).neg = false)
    (ignore : Bool) (places : Nat) (u v a b : Dbl) (hu0 : Dbl.zero ≤ u) (huv : u ≤ v) (hv1 : v ≤ Dbl.one)
    (ha : finishD false ignore places L U (exp (rawGaussianD mean sigma (erfinv (argD u)))) = .ok a)
    (hb : finishD false ignore places L U (exp (rawGaussianD mean sigma (erfinv (argD v)))) = .ok b) :
    a ≤ b :=
  finishD_monotone false ignore places L U _ _ a b
    (hexp _ _ (rawGaussianD_monotone mean sigma _ _ hm hc hc0 hcn
      (erfinv_argD_monotone erfinv herf u v hu0 huv hv1))) ha hb

/-- `LogUniformPrior.value_for` on doubles, end to end (`… → ndtr → t * scale + shift → 10 ** x → gate`,
`scale = log10(U / L)`, `shift = log10 L` as numpy computed them in the constructor). A ratio `U / L` that
overflows makes the scale infinite - known finding `C02-loguniform-ratio-overflow` - and is excluded by `hs`. -/
theorem logUniform_value_for_monotone_on_doubles (erfinv ndtr pow10 : Dbl → Dbl)
    (herf : ∀ x y, Dbl.neg' Dbl.one ≤ x → x ≤ y → y ≤ Dbl.one → erfinv x ≤ erfinv y)
    (hndtr : ∀ x y, x ≤ y → ndtr x ≤ ndtr y) (hpow : ∀ x y, x ≤ y → pow10 x ≤ pow10 y)
    (scale shift L U : Dbl) (hs : scale.isFinite = true) (hs0 : 0 < scale.mag) (hsn : scale.neg = false)
    (hsh : shift.isFinite = true)
    (ignore : Bool) (places : Nat) (u v a b : Dbl) (hu0 : Dbl.zero ≤ u) (huv : u ≤ v) (hv1 : v ≤ Dbl.one)
    (ha : finishD false ignore places L U (pow10 (Dbl.add (Dbl.mul
      (ndtr (rawGaussianD Dbl.zero Dbl.one (erfinv (argD u)))) scale) shift)) = .ok a)
    (hb : finishD false ignore places L U (pow10 (Dbl.add (Dbl.mul
      (ndtr (rawGaussianD Dbl.zero Dbl.one (erfinv (argD v)))) scale) shift)) = .ok b) : a ≤ b := by
  have hm := Dbl.mul_pos_right_mono scale _ _ ((Dbl.finite_iff _).mp hs) hs0 hsn
    (hndtr _ _ (stdGaussianD_monotone _ _ (erfinv_argD_monotone erfinv herf u v hu0 huv hv1)))
  exact finishD_monotone false ignore places L U _ _ a b
    (hpow _ _ (Dbl.add_mono_left _ _ shift hsh hm)) ha hb

/-- so `x + 0`, `x * 1`, … introduce no error in the model, as in IEEE arithmetic -/
theorem double_conversion_fixes_doubles (m : Nat) (h : m < infMag) :
    nearestBits (Dbl.magVal m) (2 ^ 1074) = m :=
  Dbl.nearestBits_magVal m h

/-- The lower limit never trips for the uniform prior on doubles (`t ≥ 0`: the range of `ndtr`). -/
theorem uniform_lower_end_in_limits_on_doubles (L U t : Dbl) (hL : L.isFinite = true)
    (hU : U.isFinite = true) (hLU : L < U) (hw : (Dbl.sub U L).isFinite = true) (ht : Dbl.zero ≤ t) :
    L ≤ rawUniformD t L U := by
  obtain ⟨wn, w0⟩ := Dbl.sub_pos L U hL hU hLU
  have hwm := (Dbl.finite_iff _).mp hw
  have h1 := Dbl.mul_pos_right_mono _ Dbl.zero t hwm w0 wn ht
  rw [Dbl.mul_comm, Dbl.mul_pos_zero _ hwm w0 wn] at h1
  unfold rawUniformD
  rw [Dbl.add_comm]
  exact Dbl.le_add_right L _ hL h1

/-- `-534.9102058632687`, `-236.83708131075005` -/
def eL : Dbl := Dbl.ofBits 0xC080B7481A02FAEF
def eU : Dbl := Dbl.ofBits 0xC06D9AC95EBEB875

/-- The upper end is different (known finding `C16-prior-unit-end-outside-limits`, root cause here): at `t = 1`
the arithmetic `1 * (U - L) + L` can land one ulp above `U`, so
`UniformPrior(-534.9102058632687, -236.83708131075005).value_for(1.0)` raises the limit exception instead of
returning the upper limit. The property allows the exception; an in-limits theorem for the upper end on
doubles is therefore not available. -/
theorem uniform_upper_end_limit_witness :
    eL < eU ∧ (Dbl.sub eU eL).isFinite = true ∧ eU < rawUniformD Dbl.one eL eU ∧
    finishD true false 14 eL eU (rawUniformD Dbl.one eL eU) = .limit := by
  decide +kernel

/-- `Prior.random` on doubles: the unit value it maps (`random.uniform(max(lo, a), min(hi, b))`, i.e.
`x + (y - x) * r` in IEEE arithmetic) is never below the requested lower unit limit `lo` nor below the
prior's lower unit limit `a`. (The upper end is not guaranteed by `random.uniform`, as its documentation says.) -/
theorem random_unit_not_below_lower_on_doubles (lo hi a b r : Dbl)
    (h0lo : Dbl.zero ≤ lo) (h0a : Dbl.zero ≤ a) (hb1 : b ≤ Dbl.one) (hhi1 : hi ≤ Dbl.one)
    (hab : a ≤ b) (hlohi : lo ≤ hi) (hlob : lo ≤ b) (hahi : a ≤ hi)
    (hr0 : Dbl.zero ≤ r) (hr1 : r ≤ Dbl.one) :
    lo ≤ randomUnitD lo hi a b r ∧ a ≤ randomUnitD lo hi a b r := by
  have f0 : Dbl.zero.isFinite = true := by decide +kernel
  have f1 : Dbl.one.isFinite = true := by decide +kernel
  have e1 : Dbl.add Dbl.one (Dbl.neg' Dbl.zero) = Dbl.one := by decide +kernel
  have na := hab.1
  have nl := hlohi.1
  unfold randomUnitD randomUnit
  simp only [GT.gt]
  -- x = max(lo, a), y = min(hi, b): lo, a ≤ x ≤ y inside [0, 1]
  generalize hx : (if lo < a then a else lo) = x
  generalize hy : (if b < hi then b else hi) = y
  have hxs : lo ≤ x ∧ a ≤ x ∧ Dbl.zero ≤ x := by
    subst hx
    split
    · rename_i c
      exact ⟨⟨nl, na, Int.le_of_lt c.2.2⟩, Dbl.le_refl a na, h0a⟩
    · rename_i c
      have : ¬ lo.key < a.key := fun hh => c ⟨nl, na, hh⟩
      exact ⟨Dbl.le_refl lo nl, ⟨na, nl, by omega⟩, h0lo⟩
  have hy1 : y ≤ Dbl.one := by
    subst hy
    split <;> assumption
  have hxy : x ≤ y := by
    subst hx hy
    split <;> split <;> assumption
  -- y - x is a finite number in [0, 1], so `x + (y - x) * r` is not below x
  have fx := Dbl.finite_of_between x _ _ hxs.2.2 (Dbl.le_trans _ _ _ hxy hy1) f0 f1
  have d0 := Dbl.sub_nonneg x y fx hxy
  have d1 : Dbl.sub y x ≤ Dbl.one := by
    have s1 := Dbl.add_mono_left y Dbl.one (Dbl.neg' x) fx hy1
    have s2 := Dbl.add_mono_right Dbl.one _ _ f1 (Dbl.neg_anti _ _ hxs.2.2)
    rw [e1] at s2
    exact Dbl.le_trans _ _ _ s1 s2
  have h : x ≤ Dbl.add x (Dbl.mul (Dbl.sub y x) r) :=
    Dbl.uniform_ge_lower x y r fx hxy (Dbl.finite_of_between _ _ _ d0 d1 f0 f1)
      (Dbl.finite_of_between r _ _ hr0 hr1 f0 f1) hr0
  exact ⟨Dbl.le_trans _ _ _ hxs.1 h, Dbl.le_trans _ _ _ hxs.2.1 h⟩

/-- non-vacuity: unit limits of a Gaussian prior 2σ .. 3σ above the mean, `r = 0.75` -/
example : Dbl.ofBits 0x3FEF4672B7A7B1E0 ≤ randomUnitD Dbl.zero Dbl.one (Dbl.ofBits 0x3FEF4672B7A7B1E0)
    (Dbl.ofBits 0x3FEFF4F0E2A9C1B4) (Dbl.ofBits 0x3FE8000000000000) :=
  (random_unit_not_below_lower_on_doubles _ _ _ _ _ (by decide +kernel) (by decide +kernel) (by decide +kernel)
    (by decide +kernel) (by decide +kernel) (by decide +kernel) (by decide +kernel) (by decide +kernel)
    (by decide +kernel) (by decide +kernel)).2

/-- the arithmetic the model computes is Python's: `1 - 2.0 * (1.0 - 0.3)`, `0.25 * (0.7 - 0.2) + 0.2`,
`1.5 + (2.0 * sqrt(2) * 0.75)` -/
example : argD (Dbl.ofBits 0x3FD3333333333333) = Dbl.ofBits 0xBFD9999999999998 := by decide +kernel
example : rawUniformD (Dbl.ofBits 0x3FD0000000000000) (Dbl.ofBits 0x3FC999999999999A)
    (Dbl.ofBits 0x3FE6666666666666) = Dbl.ofBits 0x3FD4CCCCCCCCCCCD := by decide +kernel
example : rawGaussianD (Dbl.ofBits 0x3FF8000000000000) (Dbl.ofBits 0x4000000000000000)
    (Dbl.ofBits 0x3FE8000000000000) = Dbl.ofBits 0x400CF876CCDF6CDA := by decide +kernel
/-- the hypotheses of the end-to-end statement are met (identity in place of the special functions,
`UniformPrior(0.2, 0.7)` at units 0.5 ≤ 0.6), and both values are returned -/
example (a b : Dbl)
    (ha : finishD true false 15 (Dbl.ofBits 0x3FC999999999999A) (Dbl.ofBits 0x3FE6666666666666)
      (rawUniformD (id (rawGaussianD Dbl.zero Dbl.one (id (argD (Dbl.ofBits 0x3FE0000000000000)))))
        (Dbl.ofBits 0x3FC999999999999A) (Dbl.ofBits 0x3FE6666666666666)) = .ok a)
    (hb : finishD true false 15 (Dbl.ofBits 0x3FC999999999999A) (Dbl.ofBits 0x3FE6666666666666)
      (rawUniformD (id (rawGaussianD Dbl.zero Dbl.one (id (argD (Dbl.ofBits 0x3FE3333333333333)))))
        (Dbl.ofBits 0x3FC999999999999A) (Dbl.ofBits 0x3FE6666666666666)) = .ok b) : a ≤ b :=
  uniform_value_for_monotone_on_doubles id id (fun _ _ _ h _ => h) (fun _ _ h => h)
    (Dbl.ofBits 0x3FC999999999999A) (Dbl.ofBits 0x3FE6666666666666) (by decide +kernel) (by decide +kernel)
    (by decide +kernel) (by decide +kernel) false 15 (Dbl.ofBits 0x3FE0000000000000)
    (Dbl.ofBits 0x3FE3333333333333) a b (by decide +kernel) (by decide +kernel) (by decide +kernel) ha hb

example :
    (match finishD true false 15 (Dbl.ofBits 0x3FC999999999999A) (Dbl.ofBits 0x3FE6666666666666)
      (rawUniformD (rawGaussianD Dbl.zero Dbl.one (argD (Dbl.ofBits 0x3FE0000000000000)))
        (Dbl.ofBits 0x3FC999999999999A) (Dbl.ofBits 0x3FE6666666666666)) with
      | .ok v => v.toBits == 0x3FC999999999999A | .limit => false) = true ∧
    (match finishD true false 15 (Dbl.ofBits 0x3FC999999999999A) (Dbl.ofBits 0x3FE6666666666666)
      (rawUniformD (rawGaussianD Dbl.zero Dbl.one (argD (Dbl.ofBits 0x3FE3333333333333)))
        (Dbl.ofBits 0x3FC999999999999A) (Dbl.ofBits 0x3FE6666666666666)) with
      | .ok _ => true | .limit => false) = true := by decide +kernel

end AF.C02
