import AFProofs.Lemmas.CompSpec
import AFProofs.Lemmas.NameOrd
import AFModel.FloatOps
import AFProofs.Lemmas.NameKey
import AFProofs.Lemmas.Build

/-!
# C01 — parameter vector ↔ model instance correspondence

Property theorems about the `Comp` model (`AFModel/Comp.lean`), for every composition `t`, every
value type `V`, every vector; then the order of the tuple members `name_i` by their number
(`AFModel/NameKey.lean`) and the compositions `Model(cls)` builds from a class signature (`AFModel/Build.lean`).
The model is tied to /repo by `harness/c01.py`.
-/

namespace AF.C01
open AF

variable {V : Type} [Inhabited V]
set_option linter.unusedSectionVars false

/-- The parameter order is strictly increasing in prior id: no parameter appears twice. -/
theorem ids_strictly_increasing (t : Node V) : (uniqueIds t).Pairwise (· < ·) :=
  sorted_sortDedup _

/-- A parameter is counted iff it occurs at some place: `prior_count` is the number of *distinct*
free parameters however many places share them. -/
theorem counted_iff_occurs (t : Node V) (id : Nat) :
    id ∈ uniqueIds t ↔ ∃ p, (p, id) ∈ walk t := by
  simp only [uniqueIds, mem_sortDedup, List.mem_map, Prod.exists, exists_eq_right]

theorem count_eq_length_distinct (t : Node V) :
    count t = (uniqueIds t).length ∧ (uniqueIds t).Nodup :=
  ⟨rfl, nodup_uniqueIds t⟩

/-- `paths` lists every place exactly once (a permutation of the walk) in id order. -/
theorem advertised_paths_complete_and_sorted (t : Node V) :
    (pathPriors t).Perm (walk t) ∧ (pathPriors t).Pairwise (fun a b => a.2 ≤ b.2) :=
  ⟨perm_sortById _, sorted_sortById _⟩

theorem valOf_argsOfVector (t : Node V) (v : List V) (hl : v.length = count t) (i : Nat) (hi : i < count t) :
    valOf (argsOfVector t v) ((uniqueIds t)[i]'hi) = .num (v[i]'(hl ▸ hi)) := by
  rw [valOf, argsOfVector,
    lookup_zip_get (uniqueIds t) v (nodup_uniqueIds t) hl.symm i hi (hl ▸ hi)]

/-- **Placement.** Building an instance from a vector puts the i-th value at *every* addressable
place of the i-th parameter (shared parameters included: the quantifier is over all places). -/
theorem vector_placement (ops : Ops V) (t : Node V) (v : List V) (hw : WF t)
    (hl : v.length = count t) (i : Nat) (hi : i < count t) (p : Path)
    (hp : (p, Leaf.prior ((uniqueIds t)[i]'hi)) ∈ leaves t) :
    (instFromVector ops t v).at p = some (.num (v[i]'(hl ▸ hi))) := by
  rw [instFromVector, inst, instW_at_leaf ops _ t hw p _ hp]
  exact congrArg some (valOf_argsOfVector t v hl i hi)

/-- Fixed values are untouched, whatever the vector. -/
theorem fixed_values_untouched (ops : Ops V) (t : Node V) (v : List V) (hw : WF t)
    (p : Path) (c : V) (hp : (p, Leaf.const c) ∈ leaves t) :
    (instFromVector ops t v).at p = some (.num c) :=
  instW_at_leaf ops (valOf (argsOfVector t v)) t hw p _ hp

/-- Derived parameters are the arithmetic of their operands' values. -/
theorem arith_value (ops : Ops V) (ρ : Nat → Inst V) (op : BinOp) (attrs) (l r : Node V) (a b : V)
    (hl : instW ops ρ l = .num a) (hr : instW ops ρ r = .num b) :
    instW ops ρ (.arith op attrs l r) = .num (ops.bin op a b) := by
  simp [instW, hl, hr]

theorem modif_value (ops : Ops V) (ρ : Nat → Inst V) (op : UnOp) (attrs) (x : Node V) (a : V)
    (hx : instW ops ρ x = .num a) :
    instW ops ρ (.modif op attrs x) = .num (ops.un op a) := by
  simp [instW, hx]

/-- operands that are parameters take the vector's values (any nesting follows by `arith_value`) -/
theorem arith_of_parameters (ops : Ops V) (t : Node V) (v : List V) (hl : v.length = count t)
    (op : BinOp) (attrs) (i j : Nat) (hi : i < count t) (hj : j < count t) :
    instW ops (valOf (argsOfVector t v))
        (.arith op attrs (.prior ((uniqueIds t)[i]'hi)) (.prior ((uniqueIds t)[j]'hj)))
      = .num (ops.bin op (v[i]'(hl ▸ hi)) (v[j]'(hl ▸ hj))) :=
  arith_value ops _ op attrs _ _ _ _ (valOf_argsOfVector t v hl i hi) (valOf_argsOfVector t v hl j hj)

/-- **Routes agree.** The instance depends on the arguments only through the value each parameter
receives; hence any two ways of supplying the same values (physical vector, unit vector pushed
through the priors, values by path) give the same instance. -/
theorem routes_agree (ops : Ops V) (t : Node V) (a₁ a₂ : List (Nat × V))
    (h : ∀ id, lookupArg a₁ id = lookupArg a₂ id) : inst ops a₁ t = inst ops a₂ t := by
  have : valOf a₁ = valOf a₂ := by
    funext id; simp [valOf, h id]
  simp [inst, this]

theorem lookupArg_eq_some {args : List (Nat × V)} {id : Nat} {c : V} (hex : ∃ x, (id, x) ∈ args)
    (hall : ∀ x, (id, x) ∈ args → x = c) : lookupArg args id = some c := by
  obtain ⟨x, hx⟩ := hex
  obtain ⟨⟨i, y⟩, hf, hy, hm⟩ := find?_of_mem (p := (·.1 == id)) hx (beq_self_eq_true id)
  cases beq_iff_eq.mp hy
  rw [lookupArg, hf, Option.map_some, hall y hm]

theorem mem_argsOfPaths {t : Node V} {pa : List (Path × V)} {id : Nat} {x : V} :
    (id, x) ∈ argsOfPaths t pa ↔ ∃ p, (p, x) ∈ pa ∧ t.at p = some (.prior id) := by
  simp only [argsOfPaths, List.mem_filterMap, List.mem_reverse, Prod.exists]
  constructor
  · rintro ⟨p, v, hm, h⟩
    split at h
    · cases h; exact ⟨p, hm, ‹_›⟩
    · cases h
  · rintro ⟨p, hm, hat⟩
    exact ⟨p, x, hm, by rw [hat]⟩

/-- the by-path dictionary gives a parameter the value supplied for any of its places, when the
values supplied for one parameter are consistent -/
theorem lookup_argsOfPaths (t : Node V) (pa : List (Path × V)) (id : Nat) (c : V)
    (hcons : ∀ p x, (p, x) ∈ pa → t.at p = some (.prior id) → x = c)
    (hcov : ∃ p x, (p, x) ∈ pa ∧ t.at p = some (.prior id)) :
    lookupArg (argsOfPaths t pa) id = some c :=
  lookupArg_eq_some (hcov.elim fun p ⟨x, h⟩ => ⟨x, mem_argsOfPaths.mpr ⟨p, h⟩⟩)
    fun x hx => (mem_argsOfPaths.mp hx).elim fun p h => hcons p x h.1 h.2

/-- By-path route = vector route when the path arguments cover every parameter consistently with
the vector and mention nothing else. -/
theorem path_route_eq_vector_route (ops : Ops V) (t : Node V) (v : List V) (pa : List (Path × V))
    (h : ∀ id, lookupArg (argsOfPaths t pa) id = lookupArg (argsOfVector t v) id) :
    inst ops (argsOfPaths t pa) t = instFromVector ops t v :=
  routes_agree ops t _ _ h

/-- **Tuple parameters.** The tuple value consists of exactly the members' values (a permutation)
ordered by the member order, for any total transitive member order. -/
theorem tuple_members_sorted (ops : Ops V) (le : String → String → Bool) (hle : ops.nameLe = le)
    (htot : ∀ a b, le a b = true ∨ le b a = true)
    (htr : ∀ a b c, le a b = true → le b c = true → le a c = true)
    (ρ : Nat → Inst V) (attrs : List (String × Node V)) :
    ∃ ms, instW ops ρ (.tuple attrs) = .tup ms ∧ ms.Perm (instTupleAttrs ops ρ attrs) ∧
      ms.Pairwise (fun a b => le a.1 b.1 = true) := by
  subst hle
  exact ⟨_, by simp only [instW], perm_sortByName _ _, sorted_sortByName _ htot htr _⟩

/-- When the members are held in position order (`name_0, name_1, …` increasing in the member
order) the tuple is the members' values in exactly that order, for any arity. -/
theorem tuple_in_position_order (ops : Ops V) (ρ : Nat → Inst V) (attrs : List (String × Node V))
    (hs : (instTupleAttrs ops ρ attrs).Pairwise (fun a b => ops.nameLe a.1 b.1 = true)) :
    instW ops ρ (.tuple attrs) = .tup (instTupleAttrs ops ρ attrs) := by
  simp [instW, sortByName_of_sorted _ _ hs]

/-- every addressable place of a parameter is an advertised place (`leaves ⊆ walk`) -/
theorem leaves_sub_walk : ∀ (n : Node V) (p : Path) (id : Nat),
    (p, Leaf.prior id) ∈ leaves n → (p, id) ∈ walk n := by
  intro n
  induction n using Node.induct with | _ n ih
  intro p id h
  cases n with
  | prior i =>
    cases List.mem_singleton.mp (by simpa only [leaves] using h)
    exact List.mem_singleton.mpr rfl
  | const v => cases List.mem_singleton.mp (by simpa only [leaves] using h)
  | model _ ctor attrs =>
    rw [leaves, leavesModel_eq] at h
    rw [walk, walkAttrs_eq]
    obtain ⟨⟨k, n⟩, hm, h⟩ := List.mem_flatMap.mp h
    refine List.mem_flatMap.mpr ⟨_, hm, ?_⟩
    dsimp only at h ⊢
    split at h
    · obtain ⟨q, rfl, hq⟩ := mem_map_pre.mp h
      exact mem_map_pre.mpr ⟨q, rfl, ih _ hm q id hq⟩
    · split at h
      · cases List.mem_singleton.mp h
      · nomatch h
  | coll attrs =>
    rw [leaves, leavesColl_eq] at h
    rw [walk, walkAttrs_eq]
    obtain ⟨⟨k, n⟩, hm, h⟩ := List.mem_flatMap.mp h
    refine List.mem_flatMap.mpr ⟨_, hm, ?_⟩
    dsimp only at h ⊢
    split at h
    · nomatch h
    · obtain ⟨q, rfl, hq⟩ := mem_map_pre.mp h
      exact mem_map_pre.mpr ⟨q, rfl, ih _ hm q id hq⟩
  | tuple attrs =>
    rw [leaves, leavesTuple_eq] at h
    rw [walk, walkAttrs_eq]
    obtain ⟨⟨k, n⟩, hm, h⟩ := List.mem_flatMap.mp h
    refine List.mem_flatMap.mpr ⟨_, hm, ?_⟩
    dsimp only at h ⊢
    split at h
    · cases List.mem_singleton.mp h
      exact mem_map_pre.mpr ⟨[], rfl, List.mem_singleton.mpr rfl⟩
    · cases List.mem_singleton.mp h
    · nomatch h
  | _ => nomatch h

theorem leavesColl_sub_walk : ∀ (attrs : List (String × Node V)) (p : Path) (id : Nat),
    (p, Leaf.prior id) ∈ leavesColl attrs → (p, id) ∈ walkAttrs attrs :=
  fun attrs => leaves_sub_walk (.coll attrs)

/-! ## non-vacuity: a concrete composition meeting every hypothesis

`Collection(g = Model(P2, a = p7, b = 2.5), h = Model(T2, pos = (p3, p7), r = p7 * p3))`: a shared
prior (id 7) at three places, one of them deeper, a tuple and an arithmetic node; ids out of
attribute order. -/

def witness : Node Nat :=
  .coll [("g", .model "P2" ["a", "b"] [("a", .prior 7), ("b", .const 25)]),
         ("h", .model "T2" ["pos", "r"]
            [("pos", .tuple [("pos_0", .prior 3), ("pos_1", .prior 7)]),
             ("r", .arith .mul [("left_", .prior 7), ("right_", .prior 3)] (.prior 7) (.prior 3))])]

def natOps : Ops Nat where
  bin := fun _ a b => a * b
  un := fun _ a => a
  nameLe := fun a b => decide (a ≤ b)
  lt := fun a b => decide (a < b)
  le := fun a b => decide (a ≤ b)

example : uniqueIds witness = [3, 7] ∧ count witness = 2 := by decide +kernel
example : paths witness = [["h", "pos", "pos_0"], ["h", "r", "right_"], ["g", "a"], ["h", "pos", "pos_1"], ["h", "r", "left_"]] := by decide +kernel
example : (["g", "a"], Leaf.prior 7) ∈ leaves witness ∧ (["h", "pos", "pos_1"], Leaf.prior 7) ∈ leaves witness :=
  -- the first and the fourth of the four leaves
  ⟨.head _, .tail _ (.tail _ (.tail _ (.head _)))⟩
example : (instFromVector natOps witness [10, 20]).at ["h", "pos", "pos_1"] = some (.num 20) := rfl
example : (instFromVector natOps witness [10, 20]).at ["h", "r"] = some (.num 200) := rfl

/-! tests (evaluated by the compiler at build time, not theorems): the concrete member order
`posLe` used by the driver puts the names of a 12-tuple in position order — where plain string
order (the behaviour before the repair of `TuplePrior`) does not -/
#guard ((List.range 12).map (fun i => s!"p_{i}")).Pairwise (fun a b => posLe a b = true)
#guard !(posLe "p_10" "p_2")
example : "p_10" < "p_2" := by decide +kernel

end AF.C01

namespace AF.C01
open AF

variable {V : Type}

/-- **One advertised path per parameter, in parameter order**: `unique_prior_paths` has exactly
`prior_count` entries and its i-th entry is a place of the i-th parameter. -/
theorem unique_paths_spec (t : Node V) :
    (uniquePaths t).length = count t ∧
    ∀ (i : Nat) (h₁ : i < (uniquePaths t).length) (h₂ : i < count t),
      ((uniquePaths t)[i], (uniqueIds t)[i]'h₂) ∈ walk t := by
  have hplace : ∀ id ∈ uniqueIds t, ((lastPlace (pathPriors t) id).getD [], id) ∈ walk t := fun id hid => by
    obtain ⟨p, hp, hm⟩ := lastPlace_of_counted t id hid
    rwa [hp]
  exact ⟨by rw [uniquePaths_eq_map, List.length_map, count], fun i h₁ h₂ => by
    simp only [uniquePaths_eq_map, List.getElem_map]
    exact hplace _ (List.getElem_mem h₂)⟩

/- compositions without arithmetic nodes and arrays, whose non-constructor attributes are plain
values: every advertised place is then addressable in the instance -/
mutual
def Plain : Node V → Prop
  | .prior _ => True
  | .const _ => True
  | .opaque _ => True
  | .model _ ctor attrs => PlainModelAttrs ctor attrs
  | .coll attrs => PlainCollAttrs attrs
  | .tuple attrs => PlainTupleAttrs attrs
  | .arith _ _ _ _ => False
  | .modif _ _ _ => False
  | .array _ _ => False
def PlainModelAttrs (ctor : List String) : List (String × Node V) → Prop
  | [] => True
  | (k, n) :: rest =>
      (if ctor.contains k then Plain n else walk n = []) ∧ PlainModelAttrs ctor rest
def PlainCollAttrs : List (String × Node V) → Prop
  | [] => True
  | (_, n) :: rest => ((∀ a, n ≠ .tuple a) ∧ Plain n) ∧ PlainCollAttrs rest
def PlainTupleAttrs : List (String × Node V) → Prop
  | [] => True
  | (_, n) :: rest => ((∃ i, n = .prior i) ∨ walk n = []) ∧ PlainTupleAttrs rest
end

theorem PlainModelAttrs_mem {ctor : List String} : ∀ {attrs : List (String × Node V)},
    PlainModelAttrs ctor attrs → ∀ x ∈ attrs, if ctor.contains x.1 then Plain x.2 else walk x.2 = [] :=
  forall_mem_of_cons fun (_, _) _ h => by rwa [PlainModelAttrs] at h

theorem PlainCollAttrs_mem : ∀ {attrs : List (String × Node V)},
    PlainCollAttrs attrs → ∀ x ∈ attrs, (∀ a, x.2 ≠ .tuple a) ∧ Plain x.2 :=
  forall_mem_of_cons fun (_, _) _ h => by rwa [PlainCollAttrs] at h

theorem PlainTupleAttrs_mem : ∀ {attrs : List (String × Node V)},
    PlainTupleAttrs attrs → ∀ x ∈ attrs, (∃ i, x.2 = .prior i) ∨ walk x.2 = [] :=
  forall_mem_of_cons fun (_, _) _ h => by rwa [PlainTupleAttrs] at h

/-- in a plain composition every advertised place is addressable (`walk ⊆ leaves`) -/
theorem walk_sub_leaves : ∀ (n : Node V), Plain n → ∀ (p : Path) (id : Nat),
    (p, id) ∈ walk n → (p, Leaf.prior id) ∈ leaves n := by
  intro n
  induction n using Node.induct with | _ n ih
  intro hp p id h
  cases n with
  | prior i =>
    cases List.mem_singleton.mp (by simpa only [walk] using h)
    exact List.mem_singleton.mpr rfl
  | model _ ctor attrs =>
    rw [Plain] at hp
    rw [walk, walkAttrs_eq] at h
    rw [leaves, leavesModel_eq]
    obtain ⟨⟨k, n⟩, hm, h⟩ := List.mem_flatMap.mp h
    refine List.mem_flatMap.mpr ⟨_, hm, ?_⟩
    obtain ⟨q, rfl, hq⟩ := mem_map_pre.mp h
    have hn := PlainModelAttrs_mem hp _ hm
    dsimp only at hn ⊢
    by_cases hc : ctor.contains k = true
    · rw [if_pos hc] at hn ⊢
      exact mem_map_pre.mpr ⟨q, rfl, ih _ hm hn q id hq⟩
    · rw [if_neg hc] at hn
      rw [hn] at hq; nomatch hq
  | coll attrs =>
    rw [Plain] at hp
    rw [walk, walkAttrs_eq] at h
    rw [leaves, leavesColl_eq]
    obtain ⟨⟨k, n⟩, hm, h⟩ := List.mem_flatMap.mp h
    refine List.mem_flatMap.mpr ⟨_, hm, ?_⟩
    obtain ⟨q, rfl, hq⟩ := mem_map_pre.mp h
    have hn := PlainCollAttrs_mem hp _ hm
    dsimp only at hn ⊢
    split
    · exact absurd rfl (hn.1 _)
    · exact mem_map_pre.mpr ⟨q, rfl, ih _ hm hn.2 q id hq⟩
  | tuple attrs =>
    rw [Plain] at hp
    rw [walk, walkAttrs_eq] at h
    rw [leaves, leavesTuple_eq]
    obtain ⟨⟨k, n⟩, hm, h⟩ := List.mem_flatMap.mp h
    refine List.mem_flatMap.mpr ⟨_, hm, ?_⟩
    obtain ⟨q, rfl, hq⟩ := mem_map_pre.mp h
    rcases PlainTupleAttrs_mem hp _ hm with ⟨i, rfl⟩ | hn
    · cases List.mem_singleton.mp (by simpa only [walk] using hq)
      exact List.mem_singleton.mpr rfl
    · rw [hn] at hq; nomatch hq
  | const _ => nomatch h
  | «opaque» _ => nomatch h
  | _ => nomatch hp

theorem walkModel_sub_leaves (ctor : List String) : ∀ (attrs : List (String × Node V)),
    PlainModelAttrs ctor attrs → ∀ (p : Path) (id : Nat),
    (p, id) ∈ walkAttrs attrs → (p, Leaf.prior id) ∈ leavesModel ctor attrs :=
  fun attrs => walk_sub_leaves (.model "" ctor attrs)

theorem walkColl_sub_leaves : ∀ (attrs : List (String × Node V)),
    PlainCollAttrs attrs → ∀ (p : Path) (id : Nat),
    (p, id) ∈ walkAttrs attrs → (p, Leaf.prior id) ∈ leavesColl attrs :=
  fun attrs => walk_sub_leaves (.coll attrs)

/-- **Placement at the advertised paths.** For a composition without arithmetic / array nodes the
i-th value is found at *every advertised path* of the i-th parameter — in particular at the i-th
entry of `unique_prior_paths` and at every other place sharing that parameter. -/
theorem vector_at_every_advertised_path [Inhabited V] (ops : Ops V) (t : Node V) (v : List V) (hw : WF t)
    (hp : Plain t) (hl : v.length = count t) (i : Nat) (hi : i < count t) (p : Path)
    (hplace : (p, (uniqueIds t)[i]'hi) ∈ walk t) :
    (instFromVector ops t v).at p = some (.num (v[i]'(hl ▸ hi))) :=
  vector_placement ops t v hw hl i hi p (walk_sub_leaves t hp p _ hplace)

end AF.C01

namespace AF.C01
open AF

/-- the sorting theorem instantiated with the order the code and the driver actually use
(`_position_key`: prefix, then numeric position): its hypotheses are theorems, not assumptions -/
theorem tuple_members_sorted_by_position (ρ : Nat → Inst Float) (attrs : List (String × Node Float)) :
    ∃ ms, instW floatOps ρ (.tuple attrs) = .tup ms ∧ ms.Perm (instTupleAttrs floatOps ρ attrs) ∧
      ms.Pairwise (fun a b => posLe a.1 b.1 = true) :=
  tuple_members_sorted floatOps posLe (by dsimp only [floatOps]) posLe_total posLe_trans ρ attrs

/-! ## the member order, by number, for every number of members

`posLeL` is `_position_key` on character lists (AFModel/NameKey.lean) – the order the C01 driver runs
and, on every run, compares with the `splitOn` rendering `posLe` and with the order the real
`TuplePrior.value_for_arguments` places members in. -/

/-- the member order is total and transitive (theorems, so the sorting theorems apply to it) -/
theorem member_order_total_and_transitive :
    (∀ a b, posLeL a b = true ∨ posLeL b a = true) ∧
    (∀ a b c, posLeL a b = true → posLeL b c = true → posLeL a c = true) :=
  ⟨posLeL_total, posLeL_trans⟩

/-- **`name_i` is ordered by the number `i`**, whatever the number of digits: no bound on the arity -/
theorem member_names_ordered_by_number (name : String) (i j : Nat) :
    posLeL (memberName name i) (memberName name j) = decide (i ≤ j) :=
  posLeL_memberName name i j

example : posLeL (memberName "p" 2) (memberName "p" 10) = true ∧
    posLeL (memberName "p" 100) (memberName "p" 99) = false := by
  rw [member_names_ordered_by_number, member_names_ordered_by_number]; decide

/-- the sorting theorem for the order the driver executes: hypotheses discharged -/
theorem tuple_members_sorted_by_number {V : Type} [Inhabited V] (ops : Ops V) (hle : ops.nameLe = posLeL)
    (ρ : Nat → Inst V) (attrs : List (String × Node V)) :
    ∃ ms, instW ops ρ (.tuple attrs) = .tup ms ∧ ms.Perm (instTupleAttrs ops ρ attrs) ∧
      ms.Pairwise (fun a b => posLeL a.1 b.1 = true) :=
  tuple_members_sorted ops posLeL hle posLeL_total posLeL_trans ρ attrs

example : floatOpsL.nameLe = posLeL := by dsimp only [floatOpsL]

/-! ## construction from the class signature (`AFModel/Build.lean`) -/

/-- **Tuple parameters are created and placed in position order.** `make_tuple_prior(name, k)` at
prior counter `n` holds members `name_0 … name_{k-1}` with ids `n … n+k-1`, and the tuple built from
any arguments is the members' values in exactly that order – for every `k`. -/
theorem tuple_created_and_placed_in_position_order {V : Type} [Inhabited V] (ops : Ops V)
    (hle : ops.nameLe = posLeL) (ρ : Nat → Inst V) (name : String) (k n : Nat) :
    (walk (mkTuple (V := V) name k n)) = (List.range k).map (fun i => ([memberName name i], n + i)) ∧
    instW ops ρ (mkTuple name k n) = .tup ((List.range k).map (fun i => (memberName name i, ρ (n + i)))) := by
  constructor
  · simp only [mkTuple, walk]
    exact walkAttrs_priors (memberName name) (n + ·) (List.range k)
  · simp only [mkTuple]
    have hattrs := instTupleAttrs_priors ops ρ (memberName name) (n + ·) (List.range k)
    have := tuple_in_position_order ops ρ
      ((List.range k).map (fun i => (memberName name i, Node.prior (n + i)))) (by
        rw [hattrs, List.pairwise_map]
        refine List.Pairwise.imp ?_ List.pairwise_lt_range
        intro i j hij
        rw [hle, posLeL_memberName]
        exact decide_eq_true (Nat.le_of_lt hij))
    rw [this, hattrs]

/-- a 12-tuple with the driver's member order: the hypothesis is met by projecting the record -/
example : instW ({ natOps with nameLe := posLeL }) (fun i => .num (i * 10)) (mkTuple "p" 12 5)
    = .tup ((List.range 12).map (fun i => (memberName "p" i, .num ((5 + i) * 10)))) :=
  (tuple_created_and_placed_in_position_order { natOps with nameLe := posLeL } (by dsimp only)
    (fun i => .num (i * 10)) "p" 12 5).2

/-- **Every constructor argument is addressable at its own name** in the model `Model(cls, **kw)`
builds (arguments with a string default are no parameters and are not held), whatever the keywords. -/
theorem ctor_argument_addressable {V : Type} (sig : ClassSig) (kw : List (String × Ov V)) (n : Nat)
    (a : String) (d : ArgD) (hm : (a, d) ∈ sig.args) (hd : ∀ t, d ≠ .str t) :
    ∃ x, (mkModel sig kw n).1.at [a] = some x := by
  obtain ⟨v, h1, _⟩ := mkArgs_lookup kw a sig.args n d hm hd
  obtain ⟨x, hx, _⟩ := mkModel_keeps (fun _ => True) (fun _ _ _ => trivial) a sig kw n ⟨v, h1, trivial⟩
  exact ⟨x, hx⟩

/-- **A keyword replaces exactly the named argument**: an object (prior, constant, model, … anything
but a tuple prior, which later `name_i` keywords may extend) given for constructor argument `a` is what
the model holds at `a`, whatever the other keywords are. -/
theorem keyword_replaces_argument {V : Type} (sig : ClassSig) (kw : List (String × Ov V)) (n : Nat)
    (a : String) (d : ArgD) (x : Node V) (hm : (a, d) ∈ sig.args) (hd : ∀ t, d ≠ .str t)
    (hk : lookupAttr kw a = some (.node x)) (hx : ∀ ms, x ≠ .tuple ms) :
    (mkModel sig kw n).1.at [a] = some x := by
  obtain ⟨v, h1, hv⟩ := mkArgs_lookup kw a sig.args n d hm hd
  cases hv x hk
  obtain ⟨_, h2, rfl⟩ := mkModel_keeps (· = x) (fun ms _ e => absurd e.symm (hx ms)) a sig kw n ⟨x, h1, rfl⟩
  exact h2

/-- … and then, for a prior given as keyword, the instance built from a vector holds that
parameter's value at the argument's name -/
theorem keyword_prior_receives_vector_value {V : Type} [Inhabited V] (ops : Ops V) (sig : ClassSig)
    (kw : List (String × Ov V)) (n : Nat) (a : String) (d : ArgD) (id : Nat)
    (hm : (a, d) ∈ sig.args) (hd : ∀ t, d ≠ .str t) (hk : lookupAttr kw a = some (.node (.prior id))) :
    (mkModel sig kw n).1.at [a] = some (.prior id) :=
  keyword_replaces_argument sig kw n a d (.prior id) hm hd hk (by intro ms h; cases h)

/- non-vacuity: `Model(T2, r=<prior 3>, pos_5=<prior 4>, extra=2.5)` at counter 10 -/
def sigT2 : ClassSig := { name := "T2", args := [("pos", .tup 2), ("r", .cfg), ("mode", .str "str:x")] }
def kwT2 : List (String × Ov Nat) := [("extra", .node (.const 25)), ("r", .node (.prior 3)), ("pos_5", .node (.prior 4))]

example : (mkModel sigT2 kwT2 10).1.at ["r"] = some (.prior 3) :=
  keyword_replaces_argument sigT2 kwT2 10 "r" .cfg (.prior 3) (by simp [sigT2]) (by intro t h; cases h)
    (by simp [kwT2, lookupAttr]) (by intro ms h; cases h)
example : ∃ x, (mkModel sigT2 kwT2 10).1.at ["pos"] = some x :=
  ctor_argument_addressable sigT2 kwT2 10 "pos" (.tup 2) (by simp [sigT2]) (by intro t h; cases h)

/-! tests (compiler-evaluated): the whole of `mkModel` on the example — the `pos_5` keyword is filed
inside the tuple prior, the string default reaches the instance, two new priors were made -/
#guard (mkModel sigT2 kwT2 10).2 == 12
#guard paths (mkModel sigT2 kwT2 10).1 == [["r"], ["pos", "pos_5"], ["pos", "pos_0"], ["pos", "pos_1"]]

/-- **Parameter order of a class composed from its signature.** `Model(cls)` (no keywords) at prior
counter `n` holds, in constructor-argument order and depth first (tuple members in position order,
annotated classes entered), exactly the new prior ids `n, n+1, …` – consecutive, none twice – and so … -/
theorem fresh_model_ids_consecutive_in_argument_order {V : Type} (c : String) (as : List (String × ArgD)) (n : Nat) :
    (walk (mkSub (V := V) c as n).1).map (·.2) = List.range' n ((mkSub (V := V) c as n).2 - n)
      ∧ n ≤ (mkSub (V := V) c as n).2 :=
  consec_mkSub c as n

/-- … the parameter paths it advertises (`paths`, the order of the vector) are its constructor
arguments in signature order, depth first: for a freshly composed class, vector order = signature order. -/
theorem fresh_model_paths_in_argument_order {V : Type} (c : String) (as : List (String × ArgD)) (n : Nat) :
    pathPriors (mkSub (V := V) c as n).1 = walk (mkSub (V := V) c as n).1 :=
  paths_mkSub c as n

/- non-vacuity: `Model(Deep)` of harness/vlib.py (`left: Nest(inner: P2, k)`, `right: P1`, `z`) at counter 7 -/
def sigDeep : List (String × ArgD) :=
  [("left", .sub "Nest" [("inner", .sub "P2" [("a", .cfg), ("b", .cfg)]), ("k", .cfg)]),
   ("right", .sub "P1" [("a", .cfg)]), ("z", .cfg)]
example : (walk (mkSub (V := Nat) "Deep" sigDeep 7).1).map (·.2) = List.range' 7 ((mkSub (V := Nat) "Deep" sigDeep 7).2 - 7) :=
  (fresh_model_ids_consecutive_in_argument_order "Deep" sigDeep 7).1
/-! tests (compiler-evaluated): the concrete walk and counter of that example -/
#guard (walk (mkSub (V := Nat) "Deep" sigDeep 7).1)
    == [(["left", "inner", "a"], 7), (["left", "inner", "b"], 8), (["left", "k"], 9), (["right", "a"], 10), (["z"], 11)]
#guard (mkSub (V := Nat) "Deep" sigDeep 7).2 == 12

end AF.C01
