import AFProofs.Lemmas.Combined
import AFProofs.Lemmas.CombinedCount
import AFProofs.Lemmas.CombinedOps
import AFModel.Generated.C15

/-!
# C15 — summed analyses: likelihood is the sum, parameters shared or freed as declared

Property theorems about the executable model `AF.Combined` (`AFModel/Combined.lean`), the
definitions the driver `AFDriver/C15.lean` runs and `harness/c15.py` ties to /repo on every run.
Quantifiers are unbounded: every expression over `+`, every list of analyses, every core count,
every history of evaluations (successful or raising) and every schedule of every evaluation.

Arithmetic: the order-independence statements are over any `SumOps` satisfying `Laws` (exact
arithmetic: commutative, associative, exact subtraction). For IEEE doubles the serial value is
exactly what the model computes (CPython's compensated `sum`, mirrored by `pySum`); the pooled
value sums the same numbers in arrival order and may differ in the last bits — the harness compares
bit-exactly on dyadic data and measures the difference otherwise.
-/

namespace AF.C15
open AF AF.Combined

/-- However the sum is bracketed, the combined analysis holds exactly the analyses that were
written (each once): `a + (b + c)` holds `(b, c, a)`, a permutation. -/
theorem flatten_perm {α : Type} (e : Expr α) : (flatten e).Perm e.leaves :=
  Combined.flatten_perm e

/-- `sum([a₀, a₁, …])` holds the analyses in the listed order. -/
theorem builtin_sum_keeps_order {α : Type} (a : α) (rest : List α) :
    flatten (sumExpr a rest) = a :: rest :=
  flatten_foldl_add_leaf rest (.leaf a)

/-- For ANY bracketing the analyses held are the analyses as written once every `a + (…)` (a single
analysis added to a sum on its right, which `Analysis.__add__` hands to the right operand) is read
as `(…) + a`; the rewritten expression has no such shape left. -/
theorem analyses_order_any_bracketing {α : Type} (e : Expr α) :
    flatten e = (normalize e).leaves ∧ inOrder (normalize e) = true :=
  ⟨flatten_eq_leaves_normalize e, normalize_inOrder e⟩

/-- In particular the analyses are held in the written order whenever no single analysis is the
left operand of a sum (every left-nested chain, `sum([...])`, `(a + b) + (c + d)`, …) … -/
theorem analyses_in_written_order {α : Type} (e : Expr α) (h : inOrder e = true) :
    flatten e = e.leaves :=
  flatten_of_inOrder e h

/-- … and, for pairwise different analyses, ONLY then. -/
theorem analyses_in_written_order_iff {α : Type} (e : Expr α) (hn : e.leaves.Nodup) :
    flatten e = e.leaves ↔ inOrder e = true :=
  ⟨inOrder_of_flatten e hn, flatten_of_inOrder e⟩

/-- **Free parameters declared anywhere survive** (repaired `+`,
fixes/C15-free-parameters-survive-add.patch): for every expression over `+` and
`with_free_parameters` (applied to sums) evaluation never raises, the analyses held are those of the
expression without the declarations, and the free parameters are exactly the declarations in
force (those not replaced by a later `with_free_parameters`), left to right. -/
theorem free_parameters_survive_any_position {α φ : Type} (cfg : OpsCfg)
    (hc : cfg.freeSurvivesAdd = true) (expand : List φ → List Nat) (e : FExpr α φ)
    (hw : e.wellFormed = true) :
    ∃ x, buildF cfg expand e = .ok x ∧ x.b.toList = flatten e.erase ∧
      x.free = declaredFree expand e :=
  ⟨_, buildF_spec cfg hc expand e hw, rfl, rfl⟩

/-- A declaration anywhere makes the whole sum a free-parameter analysis whose fitted model is, place
by place, one copy of the model per analysis held (in order) with every declared parameter renamed
to that analysis' own copy. -/
theorem free_anywhere_fitted_model {α φ V : Type} (cfg : OpsCfg) (hc : cfg.freeSurvivesAdd = true)
    (expand : List φ → List Nat) (e : FExpr α φ) (hw : e.wellFormed = true) (hl : e.live ≠ []) :
    ∃ x, buildF cfg expand e = .ok x ∧ x.free = some ((e.live.map expand).flatten) ∧
      ∀ (t : Node V) (as : List (Analysis V)) (ind : Bool) (base : Nat),
        walk (fittedModel t as (modeOf ind x.free.isSome) (x.free.getD []) base) =
          ((List.range as.length).map (fun k =>
            (walk t).map (fun y =>
              (toString k :: y.1, freeRename ((e.live.map expand).flatten) base k y.2)))).flatten := by
  have hf : declaredFree expand e = some ((e.live.map expand).flatten) := by
    rw [declaredFree, if_neg (by rwa [List.isEmpty_iff])]
  refine ⟨_, buildF_spec cfg hc expand e hw, hf, fun t as ind base => ?_⟩
  show walk (fittedModel t as (modeOf ind (declaredFree expand e).isSome)
    ((declaredFree expand e).getD []) base) = _
  rw [hf]
  exact walk_freeModel t _ base as.length

/-- **Refuted for the pinned commit** (`type(self)(*self.analyses, other)` without the keyword
`free_parameters`): `(a0 + a1).with_free_parameters(p) + a2` and `a2 + (a0 + a1).with_free_parameters(p)`
raise `TypeError` … -/
theorem free_operand_raises_when_flag_off :
    (buildF { freeSurvivesAdd := false } id
      (.add (.free [7] (.add (.leaf 0) (.leaf 1))) (.leaf 2) : FExpr Nat Nat)).toOption.isNone = true ∧
    (buildF { freeSurvivesAdd := false } id
      (.add (.leaf 2) (.free [7] (.add (.leaf 0) (.leaf 1))) : FExpr Nat Nat)).toOption.isNone = true := by
  decide +kernel

/-- … and `(a2 + a3) + (a0 + a1).with_free_parameters(p)` is built as a plain sum: the declared
free parameter is lost. -/
theorem free_parameters_lost_when_flag_off :
    ((buildF { freeSurvivesAdd := false } id
      (.add (.add (.leaf 2) (.leaf 3)) (.free [7] (.add (.leaf 0) (.leaf 1))) : FExpr Nat Nat)).toOption.map
        (fun x => (x.b.toList, x.free))) = some ([2, 3, 0, 1], none) ∧
    declaredFree id
      (.add (.add (.leaf 2) (.leaf 3)) (.free [7] (.add (.leaf 0) (.leaf 1))) : FExpr Nat Nat) = some [7] := by
  decide +kernel

/-- When no analysis raises, the value is Python's `sum` of the individual log likelihoods … -/
theorem serial_is_sum {ι V : Type} (so : SumOps V) (as : List (ι → Res V)) (i : ι)
    (h : ∀ a ∈ as, (a i).isErr = false) :
    serial so as i = .value (pySum so (Res.vals (as.map (· i)))) :=
  outcomeOf_of_no_err so (by
    rw [List.any_map]
    exact List.any_eq_false.mpr (fun a ha => by simp [h a ha]))

/-- … which over exact arithmetic is the plain left-to-right sum (the compensation of CPython's
float `sum` vanishes). -/
theorem compensated_sum_is_sum {V : Type} {so : SumOps V} (h : Laws so) (xs : List V) :
    pySum so xs = xs.foldl so.add so.zero :=
  pySum_exact h xs

/-- The combined evaluation raises exactly when some analysis raises on the instance. -/
theorem serial_raises_iff {ι V : Type} (so : SumOps V) (as : List (ι → Res V)) (i : ι) :
    (∃ t, serial so as i = .raises t) ↔ ∃ a ∈ as, (a i).isErr = true := by
  rw [serial, outcomeOf_raises_iff, List.any_map, List.any_eq_true]
  rfl

/-- **Bracketing and order do not matter**: the combined analysis built from any bracketing gives
the value of the analyses summed as written, and raises iff that does. -/
theorem bracketing_independent {ι V : Type} {so : SumOps V} (h : Laws so)
    (e : Expr (ι → Res V)) (i : ι) :
    Outcome.same (serial so (flatten e) i) (serial so e.leaves i) :=
  outcomeOf_perm h ((flatten_perm e).map (· i))

/-- Every analysis is handed to exactly one process, in order: the slices concatenate to the list
of analyses, for every number of analyses and every `n_cores ≥ 1`. -/
theorem partition_covers {α : Type} (cores : Nat) (as : List α) (hc : 1 ≤ cores) :
    (partition cores as).flatten = as :=
  partition_flatten cores as hc

/-- **The pool is the serial sum.** With `AnalysisPool.results` collecting one result per analysis
before raising (`drainOnError`, the repaired behaviour), for every core count, every history of
evaluations — successful or raising — and every schedule of every evaluation, the k-th evaluation
returns what the serial sum returns for the k-th instance alone: the same number, or both raise.
Nothing that happened in earlier evaluations matters, and the pool never hangs. -/
theorem pool_equals_serial {ι V : Type} (cfg : Cfg) (hd : cfg.drainOnError = true) {so : SumOps V}
    (h : Laws so) (cores : Nat) (hc : 1 ≤ cores) (as : List (ι → Res V))
    (history : List (ι × List Ev)) :
    (evaluate cfg so cores as history).length = history.length ∧
    ∀ (k : Nat) (hk : k < history.length) (hk' : k < (evaluate cfg so cores as history).length),
      Outcome.same ((evaluate cfg so cores as history)[k]) (serial so as (history[k]).1) := by
  by_cases h₁ : cores ≤ 1
  · have e : evaluate cfg so cores as history = history.map (fun x => serial so as x.1) := if_pos h₁
    rw [e]
    exact ⟨List.length_map _, fun k _ _ => by
      rw [List.getElem_map]; exact outcomeOf_perm h (.refl _)⟩
  · have e : evaluate cfg so cores as history = _ := if_neg h₁
    rw [e]
    have := poolHistory_spec cfg hd h (partition cores as) history
      (freshWorkers (partition cores as).length) List.length_replicate (inflight_freshWorkers _)
    rwa [partition_flatten cores as hc] at this

/-- the arithmetic of the integers meets `Laws` -/
def intSum : SumOps Int :=
  { add := (· + ·), sub := (· - ·), zero := 0, absGe := fun a b => a.natAbs ≥ b.natAbs,
    usable := fun c => c != 0 }

theorem intSum_laws : Laws intSum where
  comm := fun a b => Int.add_comm a b
  assoc := fun a b c => Int.add_assoc a b c
  zero_add := fun a => Int.zero_add a
  cancel := fun f x => by
    show f - (f + x) + x = 0
    rw [← Int.sub_sub, Int.sub_self, Int.zero_sub, Int.add_left_neg]

def a0 : Int → Res Int := fun i => if i = 1 then .err "FitException" else .val i
def a1 : Int → Res Int := fun i => .val (10 * i)

/-- **Refuted for the pinned commit** (`drainOnError = false`: the first exception seen is raised
at once and the other processes' results stay queued): two analyses on two cores, evaluation 1
raises in analysis 0, evaluation 2 (instance 3) returns `ll₁(1) + ll₀(3) = 13` instead of 33 and
evaluation 3 (instance 4) returns `ll₁(3) + ll₀(4) = 34` instead of 44. -/
theorem pool_out_of_step_after_failure_when_flag_off :
    evaluate { drainOnError := false } intSum 2 [a0, a1] [(2, []), (1, []), (3, []), (4, [])] =
      [.value 22, .raises "FitException", .value 13, .value 34] ∧
    [(2 : Int), 1, 3, 4].map (serial intSum [a0, a1]) =
      [.value 22, .raises "FitException", .value 33, .value 44] := by
  decide +kernel

/-- With `__new__` looking through `IndexedAnalysis` (repaired behaviour) the combined analysis is
index-aware exactly when some analysis carries its own model, however the sum is bracketed. -/
theorem own_model_seen_in_any_bracketing {α : Type} (cfg : Cfg) (hn : cfg.newSeesThroughIndex = true)
    (own : α → Bool) : ∀ (e : Expr α), (info cfg own e).indexed = e.leaves.any own := by
  intro e
  induction e with
  | leaf a => exact (Bool.or_false _).symm
  | add l r ihl ihr =>
    show (if (info cfg own l).comb && (info cfg own r).comb then
        (info cfg own l).indexed || (cfg.newSeesThroughIndex && (info cfg own r).indexed)
      else (info cfg own l).indexed || (info cfg own r).indexed) = (l.leaves ++ r.leaves).any own
    rw [hn, Bool.true_and, ite_self, ihl, ihr, List.any_append]

/-- **Refuted for the pinned commit**: `(a + b) + (c.with_model(m) + d)` is built as a plain
`CombinedAnalysis` although `c` has its own model. -/
theorem own_model_missed_when_flag_off :
    (info { newSeesThroughIndex := false } (fun k => k == 2)
      (.add (.add (.leaf 0) (.leaf 1)) (.add (.leaf 2) (.leaf 3)))).indexed = false ∧
    ([0, 1, 2, 3].any (fun k => k == 2)) = true := by
  decide +kernel

/-- In an index-aware combined analysis the k-th analysis is evaluated on `instance[k]` … -/
theorem indexed_analysis_sees_own_sub_instance {V : Type} (ops : Ops V) (eq : V → V → Bool)
    (mode : Mode) (hm : mode ≠ .plain) (as : List (Analysis V)) (k : Nat) (hk : k < as.length)
    (i : Inst V) :
    ∃ (h : k < (indexedLls ops eq mode as).length),
      (indexedLls ops eq mode as)[k] i = (as[k]).ll ops eq (subInstance i k) := by
  have e : indexedLls ops eq mode as =
      as.zipIdx.map (fun x => fun i => x.1.ll ops eq (subInstance i x.2)) := by
    cases mode with
    | plain => exact absurd rfl hm
    | own => rfl
    | free => rfl
  rw [e]
  exact ⟨by rw [List.length_map, List.length_zipIdx]; exact hk,
    by rw [List.getElem_map, List.getElem_zipIdx, Nat.zero_add]⟩

/-- … and `instance[k]` of an instance of the fitted collection is the instance of its k-th
member model built from the same parameter values (members are models or collections). -/
theorem sub_instance_is_member_instance {V : Type} [Inhabited V] (ops : Ops V) (ρ : Nat → Inst V)
    (cs : List (Node V)) (hnt : ∀ c ∈ cs, ∀ attrs, c ≠ .tuple attrs) (k : Nat) (c : Node V)
    (hc : cs[k]? = some c) :
    subInstance (instW ops ρ (listColl cs)) k = instW ops ρ c := by
  show subInstance (.obj "" (instCollAttrs ops ρ (cs.zipIdx.map fun x => (toString x.2, x.1)))) k = _
  rw [instCollAttrs_eq, subInstance, List.getElem?_map, List.getElem?_map, List.getElem?_zipIdx, hc]
  show (match c with | .tuple _ => Inst.raw | n => instW ops ρ n) = _
  split
  · exact absurd rfl (hnt _ (List.mem_of_getElem? hc) _)
  · rfl

/-- **The fitted model, place by place**: for each analysis `k` (in order) every place of the
original model, holding the parameter `freeRename F base k id`. -/
theorem fitted_model_places {V : Type} (t : Node V) (F : List Nat) (base n : Nat) :
    walk (freeModel t F base n) =
      ((List.range n).map (fun k =>
        (walk t).map (fun y => (toString k :: y.1, freeRename F base k y.2)))).flatten :=
  walk_freeModel t F base n

/-- A parameter that was not declared free is one shared parameter: the same in every analysis'
copy of the model. -/
theorem shared_parameter_single_copy (F : List Nat) (base k id : Nat) (h : id ∉ F) :
    freeRename F base k id = id :=
  freeRename_shared base k id h

/-- Free parameters are independent: two analyses never share a copy, nor do two different free
parameters of one analysis … -/
theorem free_parameter_independent_copies (F : List Nat) (base k k' id id' : Nat)
    (h : id ∈ F) (h' : id' ∈ F) (he : freeRename F base k id = freeRename F base k' id') :
    k = k' ∧ id = id' :=
  freeRename_inj base k k' id id' h h' he

/-- … and every copy is a new parameter (none of the model's own, whose ids are below `base`). -/
theorem free_copies_are_new (F : List Nat) (base k id : Nat) (h : id ∈ F) :
    base ≤ freeRename F base k id :=
  freeRename_fresh base k id h

/-- **Dimension of the fitted model**: every free parameter of the model once per analysis, every
other parameter once. -/
theorem free_params_count {V : Type} (t : Node V) (F : List Nat) (base n : Nat) (hn : 1 ≤ n)
    (hbase : ∀ id ∈ uniqueIds t, id < base) :
    count (freeModel t F base n) + ((uniqueIds t).filter (fun id => F.contains id)).length =
      count t + n * ((uniqueIds t).filter (fun id => F.contains id)).length := by
  have hlen := (perm_uniqueIds_freeModel t F base n hn hbase).length_eq
  have hsplit := (List.filter_append_perm (fun id => F.contains id) (uniqueIds t)).length_eq
  rw [List.length_append, length_freeBlocks] at hlen
  rw [List.length_append] at hsplit
  rw [count, count, hlen, ← hsplit, Nat.add_right_comm, Nat.add_comm (List.length _)]

/-- serial: the i-th analysis works in `analyses/analysis_i` -/
theorem serial_folder_is_position (n k : Nat) (hk : k < n) :
    (serialFolders n)[k]? = some k := by
  simp [serialFolders, hk]

/-- pool (`AnalysisPool.map`, repaired behaviour): the same numbering as the serial loop whatever
the partition into processes. -/
theorem pool_folders_eq_serial (cfg : Cfg) (hm : cfg.mapIndexesAnalyses = true) {α : Type}
    (cores : Nat) (hc : 1 ≤ cores) (as : List α) :
    mapFolders cfg ((partition cores as).map List.length) = serialFolders as.length := by
  have h := congrArg List.length (partition_covers cores as hc)
  simp only [List.length_flatten] at h
  simp [mapFolders, hm, serialFolders, h]

/-- **Refuted for the pinned commit** (folders numbered by process): four analyses on two cores —
the third analysis writes into `analysis_1`, the folder of the second. -/
theorem pool_folders_refuted_when_flag_off :
    mapFolders { mapIndexesAnalyses := false } ((partition 2 [0, 1, 2, 3]).map List.length) = [0, 0, 1, 1] ∧
    serialFolders 4 = [0, 1, 2, 3] := by
  decide +kernel

/-- A hook forwarded to every analysis reaches the k-th analysis held in its k-th call, with the
k-th child folder (`analyses/analysis_k`) when child paths are made, and with the k-th item of the
zipped argument (`save_results`: the k-th child result) - for every number of analyses. -/
theorem hook_reaches_child_k (cp pooled z : Bool) (n m k : Nat) (hk : k < n) (hm : z = true → k < m) :
    (hookCalls (.eachChild cp pooled z) n m)[k]? =
      some { child := k, folder := if cp then some k else none, arg := if z then some k else none } := by
  have hlen : k < (if z then min n m else n) := by
    cases z with
    | false => exact hk
    | true => exact Nat.lt_min.mpr ⟨hk, hm rfl⟩
  show ((List.range _).map _)[k]? = _
  rw [List.getElem?_map, List.getElem?_range hlen]
  rfl

/-- … exactly once each when the zipped argument has one item per analysis (or there is none). -/
theorem hook_calls_count (cp pooled z : Bool) (n m : Nat) (hm : z = true → n ≤ m) :
    (hookCalls (.eachChild cp pooled z) n m).length = n := by
  show ((List.range _).map _).length = n
  rw [List.length_map, List.length_range]
  cases z with
  | false => rfl
  | true => exact Nat.min_eq_left (hm rfl)

/-- **Over the table read off the source**: every output hook of `Analysis` / `Visualizer` (takes
`paths`, is not a once-for-all `*_combined` variant, is not a `should_*` question) is forwarded by
`CombinedAnalysis` to every analysis it holds; every once-for-all variant goes to the first
analysis; no override is of a shape the translator does not know, except `log_likelihood_function`
(the sum, modelled by `serial` / `evaluate`). A hook added to `Analysis` and not forwarded makes
this theorem fail. -/
theorem every_output_hook_reaches_every_analysis :
    (∀ h ∈ Generated.hooks, h.isOutput = true → h.route.reachesAll = true) ∧
    (∀ h ∈ Generated.hooks, h.takesPaths = true → h.shared = true → h.route = .firstChild) ∧
    (∀ h ∈ Generated.hooks, h.route = .other → h.name = "log_likelihood_function") := by
  decide +kernel

/-! ## non-vacuity: concrete inputs meeting the hypotheses -/

-- a bracketing that reorders
example : flatten (.add (.leaf 0) (.add (.leaf 1) (.leaf 2)) : Expr Nat) = [1, 2, 0] := by decide +kernel
-- operand structure: a bracketing that keeps the written order, one that does not, and its normal form
example : inOrder (.add (.add (.leaf 0) (.leaf 1)) (.add (.leaf 2) (.leaf 3)) : Expr Nat) = true := by decide +kernel
example : inOrder (.add (.leaf 0) (.add (.leaf 1) (.leaf 2)) : Expr Nat) = false ∧
    (normalize (.add (.leaf 0) (.add (.leaf 1) (.leaf 2)) : Expr Nat)).leaves = [1, 2, 0] := by decide +kernel
-- free parameters declared on both operands of a sum, one of them replaced before
example : ((buildF {} id (.add (.free [7] (.add (.leaf 0) (.leaf 1)))
      (.add (.leaf 2) (.free [9, 8] (.free [5] (.add (.leaf 3) (.leaf 4))))) : FExpr Nat Nat)).toOption.map
        (fun x => (x.b.toList, x.free))) = some ([0, 1, 3, 4, 2], some [7, 9, 8]) := by decide +kernel
example : (FExpr.add (.free [7] (.add (.leaf 0) (.leaf 1))) (.leaf 2) : FExpr Nat Nat).wellFormed = true ∧
    (FExpr.add (.free [7] (.add (.leaf 0) (.leaf 1))) (.leaf 2) : FExpr Nat Nat).live ≠ [] := by decide +kernel
-- hooks: `save_results` on three analyses with three child results; the table has output hooks
example : hookCalls (.eachChild true false true) 3 3 =
    [⟨0, some 0, some 0⟩, ⟨1, some 1, some 1⟩, ⟨2, some 2, some 2⟩] := by decide +kernel
example : (Generated.hooks.filter (·.isOutput)).length ≥ 8 := by decide +kernel
-- five analyses on four cores: slices of two, the last process idle
example : partition 4 [0, 1, 2, 3, 4] = [[0, 1], [2, 3], [4], []] := by decide +kernel
-- the repaired pool on the refutation's history, under a schedule that interleaves
example : evaluate {} intSum 2 [a0, a1]
    [(2, [.work 1, .poll, .poll, .work 0]), (1, [.poll, .work 1, .poll, .poll]), (3, []), (4, [.work 0, .work 0, .poll])] =
    [.value 22, .raises "FitException", .value 33, .value 44] := by decide +kernel
-- free centre of a three-parameter model, three analyses: 2 shared + 3 copies
example : count (freeModel (Node.model "G" ["a", "b", "c"] [("a", .prior 5), ("b", .prior 6), ("c", .prior 7)] : Node Nat) [5] 8 3) = 5 := by
  decide +kernel
example : (walk (freeModel (Node.model "G" ["a", "b"] [("a", .prior 5), ("b", .prior 6)] : Node Nat) [5] 8 2)).map (·.2) = [8, 6, 9, 6] := by
  decide +kernel

end AF.C15
