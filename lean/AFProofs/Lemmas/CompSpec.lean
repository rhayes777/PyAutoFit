import AFProofs.Lemmas.Comp

/-! Specification vocabulary for `Comp`: well-formedness, addressable leaves, induction along the attribute
tree, the attribute loops as `flatMap` / `map` / `filterMap` equations, and the placement lemma `instW_at_leaf`. -/

namespace AF

inductive Leaf (V : Type) where
  | prior (id : Nat)
  | const (v : V)

def leafVal {V} (ρ : Nat → Inst V) : Leaf V → Inst V
  | .prior id => ρ id
  | .const v => .num v

def pre {α} (k : String) (x : Path × α) : Path × α := (k :: x.1, x.2)

/- the places of free parameters and fixed values that are *addressable in the instance*:
through constructor arguments of `Model`s, members of `Collection`s and of tuple parameters.
Places inside arithmetic nodes, modifiers and arrays are *derived*: `arith_value` and `modif_value` (C01.lean)
give the first two, nothing is proved about array entries. -/
mutual
def leaves {V} : Node V → List (Path × Leaf V)
  | .prior id => [([], .prior id)]
  | .const v => [([], .const v)]
  | .model _ ctor attrs => leavesModel ctor attrs
  | .coll attrs => leavesColl attrs
  | .tuple attrs => leavesTuple attrs
  | .opaque _ => []
  | .arith _ _ _ _ => []
  | .modif _ _ _ => []
  | .array _ _ => []
def leavesModel {V} (ctor : List String) : List (String × Node V) → List (Path × Leaf V)
  | [] => []
  | (k, n) :: rest =>
      (if ctor.contains k then (leaves n).map (pre k)
       else match n with
         | .const v => [([k], .const v)]
         | _ => []) ++ leavesModel ctor rest
def leavesColl {V} : List (String × Node V) → List (Path × Leaf V)
  | [] => []
  | (k, n) :: rest =>
      (match n with
        | .tuple _ => []
        | _ => (leaves n).map (pre k)) ++ leavesColl rest
def leavesTuple {V} : List (String × Node V) → List (Path × Leaf V)
  | [] => []
  | (k, n) :: rest =>
      (match n with
        | .prior id => [([k], .prior id)]
        | .const v => [([k], .const v)]
        | _ => []) ++ leavesTuple rest
end

/- attribute names are distinct (they are keys of a Python `dict`) at every model and collection reached
through models and collections, and in the tuples directly below those -/
mutual
def WF {V} : Node V → Prop
  | .model _ _ attrs => WFAttrs attrs ∧ (attrs.map (·.1)).Nodup
  | .coll attrs => WFAttrs attrs ∧ (attrs.map (·.1)).Nodup
  | .tuple attrs => (attrs.map (·.1)).Nodup
  | _ => True
def WFAttrs {V} : List (String × Node V) → Prop
  | [] => True
  | (_, n) :: rest => WF n ∧ WFAttrs rest
end

/-- Induction along `Node.attrs`: the hypothesis covers the nodes of the attribute list only, so the operands
`l`, `r` of `.arith` and `x` of `.modif` get none (`Node.induct_attrs` in Persist.lean covers every child). -/
theorem Node.induct {V} {motive : Node V → Prop}
    (h : ∀ n, (∀ x ∈ n.attrs, motive x.2) → motive n) : ∀ n, motive n := by
  apply Node.rec (motive_1 := motive) (motive_2 := fun as => ∀ x ∈ as, motive x.2)
    (motive_3 := fun x => motive x.2)
  case nil => nofun
  case cons => exact fun x xs hx hxs y hy => (List.mem_cons.mp hy).elim (· ▸ hx) (hxs y)
  case mk => exact fun _ _ hn => hn
  all_goals (intros; apply h; first | assumption | nofun)

theorem mem_map_pre {α} {k : String} {l : List (Path × α)} {p : Path} {x : α} :
    (p, x) ∈ l.map (pre k) ↔ ∃ q, p = k :: q ∧ (q, x) ∈ l := by
  simp only [List.mem_map, pre, Prod.mk.injEq, Prod.exists]
  exact ⟨fun ⟨q, y, h, hp, hy⟩ => ⟨q, hp.symm, hy ▸ h⟩, fun ⟨q, hp, h⟩ => ⟨q, x, h, hp.symm, rfl⟩⟩

theorem walkAttrs_eq {V} : ∀ (attrs : List (String × Node V)),
    walkAttrs attrs = attrs.flatMap fun x => (walk x.2).map (pre x.1)
  | [] => rfl
  | (k, n) :: rest => by rw [walkAttrs, walkAttrs_eq rest]; rfl

theorem leavesModel_eq {V} (ctor : List String) : ∀ (attrs : List (String × Node V)),
    leavesModel ctor attrs = attrs.flatMap fun x =>
      if ctor.contains x.1 then (leaves x.2).map (pre x.1)
      else match x.2 with
        | .const v => [([x.1], .const v)]
        | _ => []
  | [] => rfl
  | (k, n) :: rest => by rw [List.flatMap_cons, ← leavesModel_eq ctor rest]; cases n <;> rfl

theorem leavesColl_eq {V} : ∀ (attrs : List (String × Node V)),
    leavesColl attrs = attrs.flatMap fun x =>
      match x.2 with
      | .tuple _ => []
      | n => (leaves n).map (pre x.1)
  | [] => rfl
  | (k, n) :: rest => by rw [List.flatMap_cons, ← leavesColl_eq rest]; cases n <;> rfl

theorem leavesTuple_eq {V} : ∀ (attrs : List (String × Node V)),
    leavesTuple attrs = attrs.flatMap fun x =>
      match x.2 with
      | .prior id => [([x.1], .prior id)]
      | .const v => [([x.1], .const v)]
      | _ => []
  | [] => rfl
  | (k, n) :: rest => by rw [List.flatMap_cons, ← leavesTuple_eq rest]; cases n <;> rfl

theorem instModelAttrs_eq {V} [Inhabited V] (ops : Ops V) (ρ : Nat → Inst V) (ctor : List String) :
    ∀ (attrs : List (String × Node V)), instModelAttrs ops ρ ctor attrs = attrs.map fun x =>
      (x.1, if ctor.contains x.1 then instW ops ρ x.2
            else match x.2 with
              | .const v => .num v
              | .opaque tag => .opaque tag
              | _ => .missing)
  | [] => rfl
  | (k, n) :: rest => by
    rw [List.map_cons, ← instModelAttrs_eq ops ρ ctor rest, instModelAttrs.eq_def]
    dsimp only
    split <;> cases n <;> rfl

theorem instCollAttrs_eq {V} [Inhabited V] (ops : Ops V) (ρ : Nat → Inst V) :
    ∀ (attrs : List (String × Node V)), instCollAttrs ops ρ attrs = attrs.map fun x =>
      (x.1, match x.2 with
            | .tuple _ => .raw
            | n => instW ops ρ n)
  | [] => rfl
  | (k, n) :: rest => by
    rw [List.map_cons, ← instCollAttrs_eq ops ρ rest]
    cases n <;> rfl

theorem instTupleAttrs_eq {V} [Inhabited V] (ops : Ops V) (ρ : Nat → Inst V) :
    ∀ (attrs : List (String × Node V)), instTupleAttrs ops ρ attrs = attrs.filterMap fun x =>
      match x.2 with
      | .prior id => some (x.1, ρ id)
      | .const v => some (x.1, .num v)
      | _ => none
  | [] => rfl
  | (k, n) :: rest => by
    rw [List.filterMap_cons, ← instTupleAttrs_eq ops ρ rest]
    cases n <;> rfl

theorem instModelAttrs_names {V} [Inhabited V] (ops : Ops V) (ρ : Nat → Inst V) (ctor) :
    ∀ (attrs : List (String × Node V)), (instModelAttrs ops ρ ctor attrs).map (·.1) = attrs.map (·.1) :=
  fun attrs => by rw [instModelAttrs_eq, List.map_map]; rfl

theorem instCollAttrs_names {V} [Inhabited V] (ops : Ops V) (ρ : Nat → Inst V) :
    ∀ (attrs : List (String × Node V)), (instCollAttrs ops ρ attrs).map (·.1) = attrs.map (·.1) :=
  fun attrs => by rw [instCollAttrs_eq, List.map_map]; rfl

theorem instTupleAttrs_names_sub {V} [Inhabited V] (ops : Ops V) (ρ : Nat → Inst V) :
    ∀ (attrs : List (String × Node V)), ((instTupleAttrs ops ρ attrs).map (·.1)).Sublist (attrs.map (·.1))
  | [] => by simp [instTupleAttrs]
  | (k, n) :: rest => by
    have ih := instTupleAttrs_names_sub ops ρ rest
    unfold instTupleAttrs
    split
    · simpa using ih
    · simpa using ih
    · simpa using ih.cons k

theorem forall_mem_of_cons {α} {F : List α → Prop} {Q : α → Prop} (hc : ∀ x xs, F (x :: xs) → Q x ∧ F xs) :
    ∀ {l : List α}, F l → ∀ x ∈ l, Q x
  | [], _ => nofun
  | _ :: _, h => fun x hx => (List.mem_cons.mp hx).elim (· ▸ (hc _ _ h).1) (forall_mem_of_cons hc (hc _ _ h).2 x)

theorem WFAttrs_mem {V} : ∀ {attrs : List (String × Node V)}, WFAttrs attrs → ∀ x ∈ attrs, WF x.2 :=
  forall_mem_of_cons fun (_, _) _ h => by rwa [WFAttrs] at h

theorem instW_at_leaf {V} [Inhabited V] (ops : Ops V) (ρ : Nat → Inst V) :
    ∀ (n : Node V), WF n → ∀ p x, (p, x) ∈ leaves n → (instW ops ρ n).at p = some (leafVal ρ x) := by
  intro n
  induction n using Node.induct with | _ n ih
  intro hw p x h
  cases n with
  | prior id => cases List.mem_singleton.mp (by simpa only [leaves] using h); simp only [instW, Inst.at, leafVal]
  | const v => cases List.mem_singleton.mp (by simpa only [leaves] using h); simp only [instW, Inst.at, leafVal]
  | model cls ctor attrs =>
    rw [WF] at hw
    rw [leaves, leavesModel_eq] at h
    obtain ⟨⟨k, n⟩, hm, h⟩ := List.mem_flatMap.mp h
    have hl := lookupAttr_of_mem (l := instModelAttrs ops ρ ctor attrs) (k := k)
      (by rw [instModelAttrs_names]; exact hw.2)
      (by rw [instModelAttrs_eq]; exact List.mem_map_of_mem hm)
    dsimp only at h hl
    split at h
    · rename_i hc
      obtain ⟨q, rfl, hq⟩ := mem_map_pre.mp h
      simp only [instW, Inst.at, hl, if_pos hc]
      exact ih _ hm (WFAttrs_mem hw.1 _ hm) q x hq
    · rename_i hc
      split at h
      · cases List.mem_singleton.mp h
        simp only [instW, Inst.at, hl, if_neg hc, leafVal]
      · nomatch h
  | coll attrs =>
    rw [WF] at hw
    rw [leaves, leavesColl_eq] at h
    obtain ⟨⟨k, n⟩, hm, h⟩ := List.mem_flatMap.mp h
    have hl := lookupAttr_of_mem (l := instCollAttrs ops ρ attrs) (k := k)
      (by rw [instCollAttrs_names]; exact hw.2)
      (by rw [instCollAttrs_eq]; exact List.mem_map_of_mem hm)
    dsimp only at h hl
    split at h
    · nomatch h
    · obtain ⟨q, rfl, hq⟩ := mem_map_pre.mp h
      simp only [instW, Inst.at, hl]
      exact ih _ hm (WFAttrs_mem hw.1 _ hm) q x hq
  | tuple attrs =>
    rw [WF] at hw
    rw [leaves, leavesTuple_eq] at h
    obtain ⟨⟨k, n⟩, hm, h⟩ := List.mem_flatMap.mp h
    have hnd := (instTupleAttrs_names_sub ops ρ attrs).nodup hw
    have hl : ∀ v, (k, v) ∈ instTupleAttrs ops ρ attrs →
        lookupAttr (sortByName ops.nameLe (instTupleAttrs ops ρ attrs)) k = some v := fun v hv => by
      rw [lookupAttr_sortByName _ _ hnd]
      exact lookupAttr_of_mem hnd hv
    dsimp only at h
    split at h
    · cases List.mem_singleton.mp h
      simp only [instW, Inst.at, hl _ (by rw [instTupleAttrs_eq]; exact List.mem_filterMap.mpr ⟨_, hm, rfl⟩), leafVal]
    · cases List.mem_singleton.mp h
      simp only [instW, Inst.at, hl _ (by rw [instTupleAttrs_eq]; exact List.mem_filterMap.mpr ⟨_, hm, rfl⟩), leafVal]
    · nomatch h
  | _ => nomatch h

theorem instColl_at_leaf {V} [Inhabited V] (ops : Ops V) (ρ : Nat → Inst V) :
    ∀ (attrs : List (String × Node V)), WFAttrs attrs → (attrs.map (·.1)).Nodup →
    ∀ p x, (p, x) ∈ leavesColl attrs →
      (Inst.obj "" (instCollAttrs ops ρ attrs)).at p = some (leafVal ρ x) :=
  fun attrs hw hnd => instW_at_leaf ops ρ (.coll attrs) ⟨hw, hnd⟩

end AF
