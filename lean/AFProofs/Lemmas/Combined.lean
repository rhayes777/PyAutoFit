import AFModel.Combined
import AFProofs.Lemmas.CompSpec

/-! Lemmas about `AFModel/Combined.lean`: sums of results up to permutation, the partition into
slices, the pool's invariant (results taken and results in flight are together the results owed),
and the places and ids of the model fitted with free parameters. -/

namespace AF.Combined
open AF

/-- the laws of the arithmetic under which the order-independence statements hold: `+` is
commutative and associative with neutral element `0`, and subtraction is exact (any abelian group:
integers, rationals; *not* floating point, where the pooled value may differ from the serial one in
the last bits — measured by the harness) -/
structure Laws {V : Type} (so : SumOps V) : Prop where
  comm : ∀ a b, so.add a b = so.add b a
  assoc : ∀ a b c, so.add (so.add a b) c = so.add a (so.add b c)
  zero_add : ∀ a, so.add so.zero a = a
  cancel : ∀ f x, so.add (so.sub f (so.add f x)) x = so.zero

theorem Laws.add_zero {V : Type} {so : SumOps V} (h : Laws so) (a : V) : so.add a so.zero = a := by
  rw [h.comm, h.zero_add]

/-- with exact arithmetic the compensation stays zero: CPython's compensated `sum` is the plain sum -/
theorem neumaier_exact {V : Type} {so : SumOps V} (h : Laws so) (xs : List V) (f : V) :
    neumaier so f so.zero xs = xs.foldl so.add f := by
  induction xs generalizing f with
  | nil =>
    show (if so.usable so.zero then so.add f so.zero else f) = f
    rw [h.add_zero, ite_self]
  | cons x xs ih =>
    show neumaier so (so.add f x)
      (if so.absGe f x then so.add so.zero (so.add (so.sub f (so.add f x)) x)
        else so.add so.zero (so.add (so.sub x (so.add f x)) f)) xs = _
    have h₂ : so.add (so.sub x (so.add f x)) f = so.zero := by rw [h.comm f x, h.cancel]
    rw [h.cancel, h₂, h.zero_add, ite_self]
    exact ih _

theorem pySum_exact {V : Type} {so : SumOps V} (h : Laws so) (xs : List V) :
    pySum so xs = xs.foldl so.add so.zero := by
  cases xs with
  | nil => rfl
  | cons x xs => exact neumaier_exact h xs _

theorem vals_eq_filterMap {V : Type} (rs : List (Res V)) :
    Res.vals rs = rs.filterMap (fun | .val v => some v | .err _ => none) := by
  induction rs with
  | nil => rfl
  | cons r rs ih =>
    cases r with
    | val v => exact congrArg (v :: ·) ih
    | err _ => exact ih

theorem sumVals_perm {V : Type} {so : SumOps V} (h : Laws so) {l₁ l₂ : List (Res V)}
    (hp : l₁.Perm l₂) : sumVals so l₁ = sumVals so l₂ := by
  rw [sumVals, sumVals, pySum_exact h, pySum_exact h, vals_eq_filterMap, vals_eq_filterMap]
  exact (hp.filterMap _).foldl_eq' (fun x _ y _ z => by rw [h.assoc, h.comm x y, ← h.assoc]) _

theorem firstErr_isSome {V : Type} (rs : List (Res V)) : (firstErr rs).isSome = rs.any Res.isErr := by
  induction rs with
  | nil => rfl
  | cons r rs ih =>
    cases r with
    | val _ => exact ih
    | err _ => rfl

theorem outcomeOf_raises_iff {V : Type} (so : SumOps V) (rs : List (Res V)) :
    (∃ t, outcomeOf so rs = .raises t) ↔ rs.any Res.isErr = true := by
  rw [← firstErr_isSome, outcomeOf]
  cases firstErr rs <;> simp

theorem outcomeOf_of_no_err {V : Type} (so : SumOps V) {rs : List (Res V)}
    (h : rs.any Res.isErr = false) : outcomeOf so rs = .value (sumVals so rs) := by
  rw [← firstErr_isSome, Option.isSome_eq_false_iff, Option.isNone_iff_eq_none] at h
  rw [outcomeOf, h]

/-- two evaluations agree: the same number, or both raise -/
def Outcome.same {V : Type} : Outcome V → Outcome V → Prop
  | .value a, .value b => a = b
  | .raises _, .raises _ => True
  | _, _ => False

theorem outcomeOf_perm {V : Type} {so : SumOps V} (h : Laws so) {l₁ l₂ : List (Res V)}
    (hp : l₁.Perm l₂) : Outcome.same (outcomeOf so l₁) (outcomeOf so l₂) := by
  cases he : l₁.any Res.isErr with
  | false =>
    rw [outcomeOf_of_no_err so he, outcomeOf_of_no_err so (hp.any_eq ▸ he)]
    exact sumVals_perm h hp
  | true =>
    obtain ⟨t₁, e₁⟩ := (outcomeOf_raises_iff so l₁).mpr he
    obtain ⟨t₂, e₂⟩ := (outcomeOf_raises_iff so l₂).mpr (hp.any_eq ▸ he)
    rw [e₁, e₂]
    trivial

theorem flatten_slices {α : Type} (k : Nat) (as : List α) (p : Nat) :
    ((List.range p).map (fun m => (as.drop (m * k)).take k)).flatten = as.take (p * k) := by
  induction p with
  | zero => rw [Nat.zero_mul]; rfl
  | succ p ih =>
    rw [List.range_succ, List.map_append, List.flatten_append, ih, Nat.succ_mul, List.take_add]
    exact congrArg (as.take (p * k) ++ ·) (List.append_nil _)

theorem le_mul_ceilDiv (n p : Nat) (hp : 1 ≤ p) : n ≤ p * ceilDiv n p := by
  have h := Nat.lt_mul_div_succ (n + p - 1) hp
  rw [Nat.mul_succ, ← Nat.succ_le_iff, Nat.succ_eq_add_one,
    Nat.sub_add_cancel (Nat.le_trans hp (Nat.le_add_left p n))] at h
  exact Nat.le_of_add_le_add_right h

theorem partition_flatten {α : Type} (cores : Nat) (as : List α) (hc : 1 ≤ cores) :
    (partition cores as).flatten = as := by
  unfold partition
  rw [flatten_slices]
  apply List.take_of_length_le
  rcases Nat.eq_zero_or_pos as.length with h0 | hpos
  · rw [h0]; exact Nat.zero_le _
  · exact le_mul_ceilDiv _ _ (Nat.le_min.mpr ⟨hpos, hc⟩)

section Pool
variable {R : Type} (cfg : Cfg) (isErr : R → Bool)

/-- every result a process still owes the caller, queue first -/
def inflight {R : Type} (ws : List (Worker R)) : List R :=
  (ws.map (fun w => w.resQ ++ w.pending)).flatten

theorem inflight_nil {R : Type} : inflight ([] : List (Worker R)) = [] := rfl

theorem inflight_cons (w : Worker R) (ws : List (Worker R)) :
    inflight (w :: ws) = (w.resQ ++ w.pending) ++ inflight ws := rfl

theorem inflight_eq_nil_iff {ws : List (Worker R)} :
    inflight ws = [] ↔ ∀ w ∈ ws, w.resQ = [] ∧ w.pending = [] := by
  rw [inflight, List.flatten_eq_nil_iff]
  simp only [List.forall_mem_map, List.append_eq_nil_iff]

theorem inflight_freshWorkers (p : Nat) : inflight (freshWorkers p : List (Worker R)) = [] := by
  rw [inflight_eq_nil_iff]
  intro w hw
  cases List.eq_of_mem_replicate hw
  exact ⟨rfl, rfl⟩

theorem deliver_flat (w : Worker R) :
    (deliver w).resQ ++ (deliver w).pending = w.resQ ++ w.pending := by
  unfold deliver
  cases h : w.pending <;> simp [h]

theorem inflight_stepWorker (ws : List (Worker R)) (k : Nat) :
    inflight (stepWorker ws k) = inflight ws := by
  unfold stepWorker
  generalize k % ws.length = j
  induction ws generalizing j with
  | nil => rw [List.modify_nil]
  | cons w ws ih =>
    cases j with
    | zero => rw [List.modify_zero_cons, inflight_cons, inflight_cons, deliver_flat]
    | succ j => rw [List.modify_succ_cons, inflight_cons, inflight_cons, ih]

theorem inflight_quiesce (ws : List (Worker R)) : inflight (quiesce ws) = inflight ws := by
  simp [inflight, quiesce, Function.comp_def]

theorem quiesce_pending (ws : List (Worker R)) : ∀ w ∈ quiesce ws, w.pending = [] := by
  intro w hw
  obtain ⟨_, _, rfl⟩ := List.mem_map.mp hw
  rfl

theorem inflight_set_take (ws : List (Worker R)) (p : Nat) (w : Worker R) (r : R)
    (rest : List R) (hw : ws[p]? = some w) (hq : w.resQ = r :: rest) :
    (r :: inflight (ws.set p { w with resQ := rest })).Perm (inflight ws) := by
  induction ws generalizing p with
  | nil => cases hw
  | cons w₀ ws ih =>
    cases p with
    | zero =>
      cases Option.some.inj hw
      rw [List.set_cons_zero, inflight_cons, inflight_cons, hq]
      rfl
    | succ p =>
      rw [List.set_cons_succ, inflight_cons, inflight_cons]
      exact List.perm_middle.symm.trans ((ih p hw).append_left _)

theorem takeAt_cases (c : Call R) (p : Nat) :
    (takeAt cfg isErr c p = c ∧ (c.aborted = true ∨ nonemptyAt c.ws p = false)) ∨
      ∃ w r rest, c.ws[p]? = some w ∧ w.resQ = r :: rest ∧
        takeAt cfg isErr c p =
          { c with ws := c.ws.set p { w with resQ := rest }, got := c.got ++ [r],
                   aborted := !cfg.drainOnError && isErr r } := by
  unfold takeAt nonemptyAt
  cases c.aborted with
  | true => exact .inl ⟨rfl, .inl rfl⟩
  | false =>
    cases hw : c.ws[p]? with
    | none => exact .inl ⟨rfl, .inr rfl⟩
    | some w =>
      cases hq : w.resQ with
      | nil => exact .inl ⟨by simp only [hq]; rfl, .inr (by simp only [hq]; rfl)⟩
      | cons r rest => exact .inr ⟨w, r, rest, rfl, hq, by simp only [hq]; rfl⟩

theorem length_takeAt (c : Call R) (p : Nat) :
    (takeAt cfg isErr c p).ws.length = c.ws.length := by
  rcases takeAt_cases cfg isErr c p with ⟨e, _⟩ | ⟨w, r, rest, _, _, e⟩ <;> rw [e]
  exact List.length_set

theorem pending_takeAt (c : Call R) (p : Nat)
    (h : ∀ x ∈ c.ws, x.pending = []) : ∀ x ∈ (takeAt cfg isErr c p).ws, x.pending = [] := by
  rcases takeAt_cases cfg isErr c p with ⟨e, _⟩ | ⟨w, r, rest, hw, _, e⟩ <;> rw [e]
  · exact h
  · intro x hx
    rcases List.mem_or_eq_of_mem_set hx with hx | rfl
    · exact h x hx
    · exact h w (List.mem_of_getElem? hw)

theorem takeAt_takes (c : Call R) (p : Nat)
    (ha : c.aborted = false) (hne : nonemptyAt c.ws p = true) :
    (takeAt cfg isErr c p).got.length = c.got.length + 1 := by
  rcases takeAt_cases cfg isErr c p with ⟨_, h | h⟩ | ⟨w, r, rest, _, _, e⟩
  · rw [ha] at h; contradiction
  · rw [hne] at h; contradiction
  · rw [e]; exact List.length_append

theorem takeAt_of_clean (c : Call R) (p : Nat)
    (h : inflight c.ws = []) : takeAt cfg isErr c p = c := by
  rcases takeAt_cases cfg isErr c p with ⟨e, _⟩ | ⟨w, r, rest, hw, hq, _⟩
  · exact e
  · exact absurd (h ▸ inflight_set_take c.ws p w r rest hw hq).eq_nil (List.cons_ne_nil _ _)

theorem drainB_of_clean (c : Call R)
    (h : inflight c.ws = []) : drainB cfg isErr c = c := by
  unfold drainB
  generalize List.range' _ _ = ps
  induction ps with
  | nil => rfl
  | cons p ps ih => rwa [List.foldl_cons, takeAt_of_clean cfg isErr c p h]

/-- what holds throughout a call under the repaired behaviour: the results taken so far together
with what is still in flight are exactly (a permutation of) the results of this evaluation -/
structure Inv {R : Type} (all : List R) (c : Call R) : Prop where
  perm : (c.got ++ inflight c.ws).Perm all
  notAborted : c.aborted = false
  notStuck : c.stuck = false

structure Done {R : Type} (all : List R) (c : Call R) : Prop where
  perm : c.got.Perm all
  clean : inflight c.ws = []
  notStuck : c.stuck = false

theorem Inv.length_eq {all : List R} {c : Call R} (h : Inv all c) :
    c.got.length + (inflight c.ws).length = all.length :=
  List.length_append ▸ h.perm.length_eq

theorem Inv.done {all : List R} {c : Call R} (h : Inv all c)
    (hn : all.length ≤ c.got.length) : Done all c := by
  have hnil : inflight c.ws = [] := List.eq_nil_of_length_eq_zero (by have := h.length_eq; omega)
  exact ⟨List.append_nil c.got ▸ hnil ▸ h.perm, hnil, h.notStuck⟩

theorem Inv.finished {R : Type} {all : List R} {c : Call R} (h : Inv all c)
    (hf : finished all.length c = true) : Done all c := by
  simp only [Combined.finished, h.notAborted, Bool.false_or, Bool.and_eq_true, decide_eq_true_eq] at hf
  exact h.done hf.2

theorem Inv.takeAt {cfg : Cfg} {isErr : R → Bool} (hd : cfg.drainOnError = true)
    {all : List R} {c : Call R} (h : Inv all c) (p : Nat) : Inv all (takeAt cfg isErr c p) := by
  rcases takeAt_cases cfg isErr c p with ⟨e, _⟩ | ⟨w, r, rest, hw, hq, e⟩ <;> rw [e]
  · exact h
  · refine ⟨?_, by rw [hd]; rfl, h.notStuck⟩
    rw [List.append_assoc]
    exact ((inflight_set_take c.ws p w r rest hw hq).append_left _).trans h.perm

theorem Inv.withPos {all : List R} {c : Call R} (h : Inv all c) (q : Nat) :
    Inv all { c with pos := q } := ⟨h.perm, h.notAborted, h.notStuck⟩

theorem poll_eq (c : Call R) :
    ∃ q, poll cfg isErr c = { takeAt cfg isErr c c.pos with pos := q } := by
  by_cases h : c.pos + 1 ≥ (takeAt cfg isErr c c.pos).ws.length
  · exact ⟨0, if_pos h⟩
  · exact ⟨c.pos + 1, if_neg h⟩

theorem nextNonempty_none {ws : List (Worker R)} {pos : Nat}
    (h : nextNonempty ws pos = none) (hp : ∀ w ∈ ws, w.pending = []) : inflight ws = [] := by
  rw [inflight_eq_nil_iff]
  intro w hw
  obtain ⟨p, hlt, rfl⟩ := List.getElem_of_mem hw
  have := List.find?_eq_none.mp h p (List.mem_append.mpr ((Nat.lt_or_ge p pos).symm.imp
    (fun hge => List.mem_range'_1.mpr
      ⟨hge, by rwa [Nat.add_sub_cancel' (Nat.le_trans hge (Nat.le_of_lt hlt))]⟩)
    (fun hlt' => List.mem_range.mpr (Nat.lt_min.mpr ⟨hlt', hlt⟩))))
  simp only [nonemptyAt, List.getElem?_eq_getElem hlt] at this
  exact ⟨by simpa using this, hp _ hw⟩

theorem drainA_spec (hd : cfg.drainOnError = true)
    (all : List R) (k : Nat) (c : Call R) (h : Inv all c) (hp : ∀ w ∈ c.ws, w.pending = [])
    (hk : c.got.length + k = all.length) :
    Done all (drainA cfg isErr k c) ∧ (drainA cfg isErr k c).ws.length = c.ws.length := by
  induction k generalizing c with
  | zero => exact ⟨h.done (Nat.le_of_eq hk.symm), rfl⟩
  | succ k ih =>
    -- `drainA` at `k + 1` is by definition an `if` on `c.aborted` (its equation lemmas are slow to derive)
    have e : drainA cfg isErr (k + 1) c = _ := if_neg (by rw [h.notAborted]; decide)
    rw [e]
    have hi : (inflight c.ws).length = k + 1 := Nat.add_left_cancel (h.length_eq.trans hk.symm)
    cases hn : nextNonempty c.ws c.pos with
    | none => rw [nextNonempty_none hn hp] at hi; cases hi
    | some p =>
      have ht := takeAt_takes cfg isErr c p h.notAborted (List.find?_some hn)
      have := ih { takeAt cfg isErr c p with pos := p + 1 } ((h.takeAt hd p).withPos _)
        (pending_takeAt cfg isErr c p hp) (by rw [ht, Nat.add_assoc, Nat.add_comm 1 k]; exact hk)
      exact ⟨this.1, this.2.trans (length_takeAt cfg isErr c p)⟩

theorem fallback_spec (hd : cfg.drainOnError = true)
    (all : List R) (c : Call R) (h : Inv all c) :
    Done all (fallback cfg isErr all.length c) ∧ (fallback cfg isErr all.length c).ws.length = c.ws.length := by
  obtain ⟨hD, hl⟩ := drainA_spec cfg isErr hd all (all.length - c.got.length) { c with ws := quiesce c.ws }
    ⟨by rw [inflight_quiesce]; exact h.perm, h.notAborted, h.notStuck⟩ (quiesce_pending c.ws)
    (Nat.add_sub_cancel' (Nat.le.intro h.length_eq))
  unfold fallback
  simp only []
  generalize drainA cfg isErr _ _ = c₂ at hD hl ⊢
  rw [if_neg (by rw [hD.notStuck]; decide), drainB_of_clean cfg isErr c₂ hD.clean]
  exact ⟨⟨hD.perm, hD.clean, hD.notStuck⟩, hl.trans (List.length_map _)⟩

theorem callLoop_spec (hd : cfg.drainOnError = true)
    (all : List R) (evs : List Ev) (c : Call R) (h : Inv all c) :
    Done all (callLoop cfg isErr all.length c evs) ∧
      (callLoop cfg isErr all.length c evs).ws.length = c.ws.length := by
  induction evs generalizing c with
  | nil => exact fallback_spec cfg isErr hd all c h
  | cons ev es ih =>
    cases ev with
    | work w =>
      have := ih { c with ws := stepWorker c.ws w }
        ⟨by rw [inflight_stepWorker]; exact h.perm, h.notAborted, h.notStuck⟩
      exact ⟨this.1, this.2.trans (List.length_modify ..)⟩
    | poll =>
      obtain ⟨q, e⟩ := poll_eq cfg isErr c
      have h' : Inv all (poll cfg isErr c) := e ▸ (h.takeAt hd c.pos).withPos q
      have hl : (poll cfg isErr c).ws.length = c.ws.length := e ▸ length_takeAt cfg isErr c c.pos
      by_cases hf : finished all.length (poll cfg isErr c) = true
      · have e : callLoop cfg isErr all.length c (.poll :: es) = poll cfg isErr c := if_pos hf
        rw [e]
        exact ⟨h'.finished hf, hl⟩
      · have e : callLoop cfg isErr all.length c (.poll :: es) = _ := if_neg hf
        rw [e]
        exact ⟨(ih _ h').1, (ih _ h').2.trans hl⟩

end Pool

theorem inflight_submit_clean {ι R : Type} (slices : List (List (ι → R))) (ws : List (Worker R)) (i : ι)
    (hl : ws.length = slices.length) (hc : inflight ws = []) :
    inflight (submit slices ws i) = slices.flatten.map (· i) := by
  induction slices generalizing ws with
  | nil => rfl
  | cons s slices ih =>
    cases ws with
    | nil => cases hl
    | cons w ws =>
      rw [inflight_cons, List.append_eq_nil_iff, List.append_eq_nil_iff] at hc
      show (w.resQ ++ (w.pending ++ s.map (· i))) ++ inflight (submit slices ws i) = _
      rw [ih ws (Nat.succ.inj hl) hc.2, hc.1.1, hc.1.2, List.flatten_cons, List.map_append]
      rfl

theorem poolCall_spec {ι V : Type} (cfg : Cfg) (hd : cfg.drainOnError = true) {so : SumOps V}
    (hlaws : Laws so) (slices : List (List (ι → Res V))) (ws : List (Worker (Res V))) (i : ι)
    (evs : List Ev) (hl : ws.length = slices.length) (hc : inflight ws = []) :
    Outcome.same (poolCall cfg so slices.flatten.length slices ws i evs).1 (serial so slices.flatten i) ∧
      (poolCall cfg so slices.flatten.length slices ws i evs).2.length = slices.length ∧
      inflight (poolCall cfg so slices.flatten.length slices ws i evs).2 = [] := by
  have h := callLoop_spec cfg Res.isErr hd (slices.flatten.map (· i)) evs { ws := submit slices ws i }
    ⟨inflight_submit_clean slices ws i hl hc ▸ .refl _, rfl, rfl⟩
  rw [List.length_map] at h
  refine ⟨?_, h.2.trans (by rw [submit, List.length_zipWith, hl, Nat.min_self]), h.1.clean⟩
  simp only [poolCall, callOutcome, h.1.notStuck, Bool.false_eq_true, ↓reduceIte, serial]
  exact outcomeOf_perm hlaws h.1.perm

theorem poolHistory_spec {ι V : Type} (cfg : Cfg) (hd : cfg.drainOnError = true) {so : SumOps V}
    (hlaws : Laws so) (slices : List (List (ι → Res V))) (hist : List (ι × List Ev))
    (ws : List (Worker (Res V))) (hl : ws.length = slices.length) (hc : inflight ws = []) :
    (poolHistory cfg so slices.flatten.length slices ws hist).length = hist.length ∧
    ∀ (k : Nat) (hk : k < hist.length)
      (hk' : k < (poolHistory cfg so slices.flatten.length slices ws hist).length),
      Outcome.same (poolHistory cfg so slices.flatten.length slices ws hist)[k]
        (serial so slices.flatten hist[k].1) := by
  induction hist generalizing ws with
  | nil => exact ⟨rfl, fun _ hk => nomatch hk⟩
  | cons e rest ih =>
    have h := poolCall_spec cfg hd hlaws slices ws e.1 e.2 hl hc
    have ih := ih _ h.2.1 h.2.2
    refine ⟨congrArg (· + 1) ih.1, fun k hk hk' => ?_⟩
    cases k with
    | zero => exact h.1
    | succ k => exact ih.2 k (Nat.lt_of_succ_lt_succ hk) (Nat.lt_of_succ_lt_succ hk')

mutual
theorem walk_mapIds {V : Type} : ∀ (t : Node V) (σ : Nat → Nat),
    walk (mapIds σ t) = (walk t).map (fun x => (x.1, σ x.2))
  | .prior _, _ => rfl
  | .const _, _ => rfl
  | .opaque _, _ => rfl
  | .model _ _ attrs, σ => walkAttrs_mapIds σ attrs
  | .coll attrs, σ => walkAttrs_mapIds σ attrs
  | .tuple attrs, σ => walkAttrs_mapIds σ attrs
  | .arith _ attrs _ _, σ => walkAttrs_mapIds σ attrs
  | .modif _ attrs _, σ => walkAttrs_mapIds σ attrs
  | .array _ attrs, σ => walkAttrs_mapIds σ attrs
theorem walkAttrs_mapIds {V : Type} (σ : Nat → Nat) : ∀ (attrs : List (String × Node V)),
    walkAttrs (mapIdsAttrs σ attrs) = (walkAttrs attrs).map (fun x => (x.1, σ x.2))
  | [] => rfl
  | (k, n) :: rest => by
    show (walk (mapIds σ n)).map (fun x => (k :: x.1, x.2)) ++ walkAttrs (mapIdsAttrs σ rest) =
      ((walk n).map (fun x => (k :: x.1, x.2)) ++ walkAttrs rest).map (fun x => (x.1, σ x.2))
    rw [walk_mapIds n σ, walkAttrs_mapIds σ rest, List.map_append, List.map_map, List.map_map]
    rfl
end

theorem walk_listColl {V : Type} (cs : List (Node V)) :
    walk (listColl cs) =
      (cs.zipIdx.map (fun x => (walk x.1).map (fun y => (toString x.2 :: y.1, y.2)))).flatten := by
  show walkAttrs _ = _
  rw [walkAttrs_eq, List.flatMap_def, List.map_map]
  rfl

theorem zipIdx_map_range {α : Type} (f : Nat → α) (n : Nat) :
    ((List.range n).map f).zipIdx = (List.range n).map (fun i => (f i, i)) := by
  rw [List.zipIdx_map, List.zipIdx_eq_zip_range', List.length_range, ← List.range_eq_range',
    List.zip_eq_zipWith, List.zipWith_self, List.map_map]
  rfl

theorem walk_freeModel {V : Type} (t : Node V) (F : List Nat) (base n : Nat) :
    walk (freeModel t F base n) =
      ((List.range n).map (fun k =>
        (walk t).map (fun y => (toString k :: y.1, freeRename F base k y.2)))).flatten := by
  rw [freeModel, walk_listColl, zipIdx_map_range, List.map_map]
  congr 2
  funext k
  simp only [Function.comp, freeCopy, walk_mapIds, List.map_map]
  rfl

theorem lastIndexOf_some {F : List Nat} {id j : Nat} (h : lastIndexOf F id = some j) :
    F[j]? = some id := by
  obtain ⟨x, hf, rfl⟩ := Option.map_eq_some_iff.mp h
  have hm := List.mem_of_find?_eq_some hf
  rw [List.mem_reverse, List.mem_zipIdx_iff_getElem?] at hm
  exact hm.trans (congrArg some (by simpa using List.find?_some hf))

theorem lastIndexOf_none {F : List Nat} {id : Nat} : lastIndexOf F id = none ↔ id ∉ F := by
  unfold lastIndexOf
  simp only [Option.map_eq_none_iff, List.find?_eq_none, List.mem_reverse, beq_iff_eq]
  constructor
  · intro h hm
    obtain ⟨i, hi⟩ := List.mem_iff_getElem?.mp hm
    exact h (id, i) (List.mem_zipIdx_iff_getElem?.mpr hi) rfl
  · intro h x hx hxe
    rw [List.mem_zipIdx_iff_getElem?] at hx
    exact h (hxe ▸ List.mem_of_getElem? hx)

theorem freeRename_shared {F : List Nat} (base k id : Nat) (h : id ∉ F) : freeRename F base k id = id := by
  rw [freeRename, lastIndexOf_none.mpr h]

theorem freeRename_free {F : List Nat} (base k id : Nat) (h : id ∈ F) :
    ∃ j, F[j]? = some id ∧ freeRename F base k id = base + (k * F.length + j) := by
  cases hj : lastIndexOf F id with
  | none => exact absurd h (lastIndexOf_none.mp hj)
  | some j => exact ⟨j, lastIndexOf_some hj, by rw [freeRename, hj]; exact Nat.add_assoc ..⟩

theorem block_inj {L k k' j j' : Nat} (hj : j < L) (hj' : j' < L) (h : k * L + j = k' * L + j') :
    k = k' ∧ j = j' := by
  have hk : ∀ {k j}, j < L → (k * L + j) / L = k := fun hj => by
    rw [Nat.add_comm, Nat.add_mul_div_right _ _ (Nat.zero_lt_of_lt hj), Nat.div_eq_of_lt hj,
      Nat.zero_add]
  have : k = k' := by rw [← hk (k := k) hj, h, hk hj']
  subst this
  exact ⟨rfl, Nat.add_left_cancel h⟩

theorem freeRename_inj {F : List Nat} (base k k' id id' : Nat) (h : id ∈ F) (h' : id' ∈ F)
    (he : freeRename F base k id = freeRename F base k' id') : k = k' ∧ id = id' := by
  obtain ⟨j, hj, e⟩ := freeRename_free base k id h
  obtain ⟨j', hj', e'⟩ := freeRename_free base k' id' h'
  rw [e, e'] at he
  obtain ⟨rfl, rfl⟩ := block_inj (List.getElem?_eq_some_iff.mp hj).1
    (List.getElem?_eq_some_iff.mp hj').1 (Nat.add_left_cancel he)
  exact ⟨rfl, Option.some.inj (hj.symm.trans hj')⟩

theorem freeRename_fresh {F : List Nat} (base k id : Nat) (h : id ∈ F) : base ≤ freeRename F base k id := by
  obtain ⟨j, _, hj⟩ := freeRename_free base k id h
  exact hj ▸ Nat.le_add_right ..

end AF.Combined
