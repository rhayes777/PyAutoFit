import AFModel.QuerySql
import AFProofs.Lemmas.Query

/-! Lemmas about `QuerySql`: junctions that hold their conditions in a set; at the end two more predicates of
`Witness` for C10.lean. -/

namespace AF.Query

variable {α : Type}

/-! ### structural equality is equality -/

mutual
theorem Q.same_sound [DecidableEq α] : ∀ (a b : Q α), Q.same a b = true → a = b
  | .value o c, b, h => by cases b <;> simp_all [Q.same]
  | .strv o s, b, h => by cases b <;> simp_all [Q.same]
  | .isNone, b, h => by cases b <;> simp_all [Q.same]
  | .type p, b, h => by cases b <;> simp_all [Q.same]
  | .fitc c, b, h => by cases b <;> simp_all [Q.same]
  | .named n i c, b, h => by
    cases b with
    | named n' i' c' =>
      simp only [Q.same, Bool.and_eq_true, decide_eq_true_eq] at h
      obtain ⟨⟨rfl, rfl⟩, hc⟩ := h
      rw [Q.same_sound c c' hc]
    | _ => simp [Q.same] at h
  | .inverted q, b, h => by
    cases b with
    | inverted q' =>
      simp only [Q.same] at h
      rw [Q.same_sound q q' h]
    | _ => simp [Q.same] at h
  | .and cs, b, h => by
    cases b with
    | and cs' =>
      simp only [Q.same] at h
      rw [sameList_sound cs cs' h]
    | _ => simp [Q.same] at h
  | .or cs, b, h => by
    cases b with
    | or cs' =>
      simp only [Q.same] at h
      rw [sameList_sound cs cs' h]
    | _ => simp [Q.same] at h
theorem sameList_sound [DecidableEq α] : ∀ (as bs : List (Q α)), sameList as bs = true → as = bs
  | [], [], _ => rfl
  | [], _ :: _, h => by simp [sameList] at h
  | _ :: _, [], h => by simp [sameList] at h
  | a :: as, b :: bs, h => by
    simp only [sameList, Bool.and_eq_true] at h
    rw [Q.same_sound a b h.1, sameList_sound as bs h.2]
end

mutual
theorem Q.same_refl [DecidableEq α] : ∀ (a : Q α), Q.same a a = true
  | .value _ _ => by simp [Q.same]
  | .strv _ _ => by simp [Q.same]
  | .isNone => by simp [Q.same]
  | .type _ => by simp [Q.same]
  | .fitc _ => by simp [Q.same]
  | .named _ _ c => by simp [Q.same, Q.same_refl c]
  | .inverted q => by simp [Q.same, Q.same_refl q]
  | .and cs => by simp [Q.same, sameList_refl cs]
  | .or cs => by simp [Q.same, sameList_refl cs]
theorem sameList_refl [DecidableEq α] : ∀ (as : List (Q α)), sameList as as = true
  | [] => rfl
  | a :: as => by simp [sameList, Q.same_refl a, sameList_refl as]
end

/-! ### a set of conditions: `dedupSame`, `canon` -/

/-- an equality test that only ever identifies equal things -/
def SoundEq {β} (same : β → β → Bool) : Prop := ∀ a b, same a b = true → a = b

theorem mem_dedupSame {β} {same : β → β → Bool} (hs : SoundEq same) {x : β} :
    ∀ {l : List β}, x ∈ dedupSame same l ↔ x ∈ l
  | [] => by simp [dedupSame]
  | a :: l => by
    simp only [dedupSame, List.mem_cons, List.mem_filter, mem_dedupSame hs (l := l), Bool.not_eq_true']
    cases hsx : same a x
    · simp
    · simp [hs a x hsx]

theorem nodup_dedupSame {β} {same : β → β → Bool} (hr : ∀ a, same a a = true) :
    ∀ (l : List β), (dedupSame same l).Nodup
  | [] => by simp [dedupSame]
  | a :: l => by
    simp only [dedupSame, List.nodup_cons, List.mem_filter, Bool.not_eq_true']
    refine ⟨?_, (nodup_dedupSame hr l).filter _⟩
    rintro ⟨_, h⟩
    rw [hr a] at h
    exact Bool.noConfusion h

theorem mem_canon {β : Type} {same : β → β → Bool} (hs : SoundEq same) (key : β → String) {x : β} {l : List β} :
    x ∈ canon same key l ↔ x ∈ l := by
  simp only [canon]
  rw [(perm_isort (keyLe key) _).mem_iff, mem_dedupSame hs]

theorem nodup_canon {β : Type} {same : β → β → Bool} (hr : ∀ a, same a a = true) (key : β → String) (l : List β) :
    (canon same key l).Nodup :=
  (perm_isort (keyLe key) _).nodup_iff.mpr (nodup_dedupSame hr l)

theorem keyLe_total {β : Type} (key : β → String) (a b : β) : keyLe key a b = true ∨ keyLe key b a = true := by
  simp only [keyLe, Bool.not_eq_true', decide_eq_false_iff_not]
  by_cases h : key b < key a
  · right; exact String.lt_asymm h
  · left; exact h

theorem keyLe_trans {β : Type} (key : β → String) (a b c : β) (h1 : keyLe key a b = true) (h2 : keyLe key b c = true) :
    keyLe key a c = true := by
  simp only [keyLe, Bool.not_eq_true', decide_eq_false_iff_not, String.not_lt] at *
  exact String.le_trans h1 h2

theorem sorted_canon {β : Type} (same : β → β → Bool) (key : β → String) (l : List β) :
    (canon same key l).Pairwise (fun a b => keyLe key a b = true) :=
  sorted_isort _ (keyLe_trans key) (keyLe_total key) _

theorem keyLe_antisymm {β : Type} (key : β → String) (a b : β) (h1 : keyLe key a b = true) (h2 : keyLe key b a = true) :
    key a = key b := by
  simp only [keyLe, Bool.not_eq_true', decide_eq_false_iff_not] at h1 h2
  exact String.le_antisymm (String.not_lt.mp h1) (String.not_lt.mp h2)

theorem sortStrs_perm {l₁ l₂ : List String} (h : l₁.Perm l₂) : sortStrs l₁ = sortStrs l₂ := by
  unfold sortStrs
  rw [isort_eq, isort_eq]
  exact sortBy_eq_of_perm _ (keyLe_total id) (keyLe_trans id) (fun a _ b _ => keyLe_antisymm id a b) h

/-! ### junction construction with sets -/

theorem contribAll_eq_any (cs : List (Q α)) :
    contribAll cs = ⟨cs.any (fun c => (contrib c).value), cs.any (fun c => (contrib c).string), cs.any (fun c => (contrib c).nul)⟩ := by
  induction cs with
  | nil => rfl
  | cons c cs ih => simp [contribAll, ih, Tables.union]

theorem contribAll_of_mem_iff {l₁ l₂ : List (Q α)} (h : ∀ x, x ∈ l₁ ↔ x ∈ l₂) : contribAll l₁ = contribAll l₂ := by
  rw [contribAll_eq_any, contribAll_eq_any]
  congr 1 <;> exact quant_of_mem_iff h false _

variable (ops : NumOps α) (f : Fit α)

theorem otherS_true : otherS (α := α) true = Q.other := by
  funext q; rfl

theorem mergeable_of_mergeableS {cfg : Cfg} {bare isAnd : Bool} (c : Q α) (h : mergeableS cfg bare isAnd c = true) :
    mergeable cfg c = true := by
  simp only [mergeableS, Bool.and_eq_true] at h
  exact h.1

theorem contrib_mkJS (cfg : Cfg) {same : Q α → Q α → Bool} (hs : SoundEq same) (key : Q α → String) :
    ∀ (fuel : Nat) (isAnd : Bool) (cs : List (Q α)), contrib (mkJS cfg true same key fuel isAnd cs) = contribAll cs
  | 0, isAnd, cs => contrib_junction isAnd cs
  | fuel + 1, isAnd, cs => by
    simp only [mkJS]
    rw [contrib_collapse, contribAll_of_mem_iff (fun x => mem_canon hs key),
      contribAll_merge (fun c h => contrib_of_mergeable (mergeable_of_mergeableS c h)), contribAll_flat]

/-- as `mkJ_sem`; `canon` keeps the members -/
theorem mkJS_sem (cfg : Cfg) (hcfg : cfg.junctionKeepsNot = true) {same : Q α → Q α → Bool} (hs : SoundEq same)
    (key : Q α → String) : ∀ (fuel : Nat) (isAnd : Bool) (cs : List (Q α))
    (o : Obj α), o.WF = true → sem ops f (mkJS cfg true same key fuel isAnd cs) o = jsem ops f isAnd cs o
  | 0, isAnd, cs, o, _ => sem_junction ops f isAnd cs o
  | fuel + 1, isAnd, cs, o, hwf => by
    simp only [mkJS]
    rw [sem_collapse, jsem_of_mem_iff ops f (fun x => mem_canon hs key), otherS_true,
      merge_round_sem ops f cfg hcfg isAnd _ (fun ds k hk => mkJS_sem cfg hcfg hs key fuel isAnd ds k hk)
        (contrib_mkJS cfg hs key fuel isAnd) _ mergeable_of_mergeableS _ o hwf, jsem_flat]

theorem sem_compileS (cfg : Cfg) (hcfg : cfg.junctionKeepsNot = true) {same : Q α → Q α → Bool} (hs : SoundEq same)
    (key : Q α → String) (fuel : Nat) (hwf : f.inst.WF = true) :
    ∀ (p : Pred α), sem ops f (compileS cfg true same key fuel p) f.inst = evalDirect ops f p :=
  sem_compile_of ops f hwf (mkJS cfg true same key fuel)
    (fun isAnd cs => mkJS_sem ops f cfg hcfg hs key fuel isAnd cs _ hwf) (compileS cfg true same key fuel)
    (fun _ _ _ => rfl) (fun _ => rfl) (fun _ _ => rfl) (fun _ _ => rfl) (fun _ => rfl)

namespace Witness

/-- `(g.centre == 1) & ((g.sigma == 2) & (g.centre == 1))` -/
def dupPred : Pred Nat :=
  .and (.path "g" ["centre"] (.num .eq 1)) (.and (.path "g" ["sigma"] (.num .eq 2)) (.path "g" ["centre"] (.num .eq 1)))

/-- `g | (g.centre == 1)` -/
def bareOr : Pred Nat := .or (.path "g" [] .any) (.path "g" ["centre"] (.num .eq 1))

end Witness

end AF.Query
