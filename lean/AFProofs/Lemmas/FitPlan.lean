import AFProofs.Lemmas.FitFS
import AFModel.FitPlan

/-!
Conformance of the step lists read off the source (`AF.FitFS.Plan`) with the hand-written model (`AF.FitFS`),
piece by piece.  The pieces add up to `runSteps`, the steps `run` performs from a safe state.
-/

namespace AF.FitFS
open AF.FitFS.Src AF.FitFS.Plan

theorem srcZipAtomic_true : srcZipAtomic = true := by decide
theorem srcRestoreValidates_true : srcRestoreValidates = true := by decide
theorem srcAtomicWrites_true : srcAtomicWrites = true := by decide

theorem srcCfg_eq (a b : Bool) : srcCfg a b = ⟨true, true, true, a, b⟩ := by
  simp [srcCfg, srcZipAtomic_true, srcRestoreValidates_true, srcAtomicWrites_true]

theorem updateSteps_eq (a b : Bool) (st : Settings) (g : Nat) :
    updateSteps st g = update (srcCfg a b) st g := by
  rw [srcCfg_eq]
  rcases st with ⟨rm, csv, ki, se, fom⟩
  cases csv <;> rfl

theorem roundSteps_eq (a b : Bool) (st : Settings) (g : Nat) :
    roundSteps st g = round (srcCfg a b) st g := by
  rw [srcCfg_eq]
  rcases st with ⟨rm, csv, ki, se, fom⟩
  cases se <;> rfl

theorem duringSteps_eq (a b : Bool) (st : Settings) :
    ∀ (k g : Nat), duringSteps st g k = during (srcCfg a b) st g k
  | 0, _ => rfl
  | k + 1, g => by
    simp only [duringSteps, during, roundSteps_eq a b, updateSteps_eq a b, duringSteps_eq a b st k]

theorem timerStartSteps_eq (a b : Bool) (fo : Folder) :
    timerStartSteps fo = (timerStart (srcCfg a b) fo).1 := by
  rw [srcCfg_eq]
  unfold timerStartSteps timerStart
  cases fo .start <;> rfl

theorem postFitSteps_eq (a b : Bool) (st : Settings) : postFitSteps st = postSteps (srcCfg a b) st := by
  rw [srcCfg_eq]
  rcases st with ⟨rm, csv, ki, se, fom⟩
  cases ki <;> cases rm <;> rfl

theorem completedFitSteps_nil (st : Settings) : completedFitSteps st = [] := by
  rcases st with ⟨rm, csv, ki, se, fom⟩
  rfl

theorem restoreSteps_eq (a b : Bool) (st : Settings) (fs : FS) (h : fs.zip ≠ .torn) :
    restore (srcCfg a b) fs = (restoreSteps st fs, none) := by
  unfold restoreSteps restore
  cases hz : fs.zip with
  | absent => rfl
  | torn => exact absurd hz h
  | full c => simp only [List.append_assoc]; rfl

theorem startResumeSteps_eq (a b : Bool) (st : Settings) (n g0 : Nat) (fo : Folder) :
    startResumeSteps st n g0 fo = (timerStart (srcCfg a b) fo).1 ++ sampling (srcCfg a b) st n g0 := by
  have ha : active (env st false false) Gen.startResume =
      [.timerStart, .fitInner, .performUpdate, .saveResults, .completed] := rfl
  unfold startResumeSteps
  rw [ha]
  simp only [List.flatMap_cons, List.flatMap_nil, List.nil_append, List.append_nil, timerStartSteps_eq a b,
    duringSteps_eq a b, roundSteps_eq a b, updateSteps_eq a b, sampling, List.append_assoc]

theorem mainSteps_eq (a b : Bool) (st : Settings) (n : Nat) (fs : FS) :
    mainSteps st n fs = pathSteps (srcCfg a b) st n fs := by
  have ha (c : Bool) : active (env st c false) Gen.fit =
      [.restore, .preFitOutput, bif c then .resultViaCompletedFit else .startResumeFit, .postFitOutput] := by
    cases c <;> rfl
  unfold mainSteps pathSteps
  rw [ha]
  simp only [List.flatMap_cons, List.flatMap_nil, List.nil_append, List.append_nil]
  by_cases hm : fs.folder .marker = .absent
  · rw [if_pos hm, bne_eq_false_iff_eq.2 hm]
    simp only [cond_false, startResumeSteps_eq a b, postFitSteps_eq a b, resumeSteps, List.append_assoc]
    rfl
  · rw [if_neg hm, bne_iff_ne.2 hm]
    simp only [cond_true, completedFitSteps_nil, postFitSteps_eq a b, List.nil_append]
    rfl

theorem restoreFirst_true : restoreFirst = true := by decide

theorem planSteps_eq (a b : Bool) (st : Settings) (n : Nat) (fs : FS) (h : fs.zip ≠ .torn) :
    planSteps st n fs = runSteps (srcCfg a b) st n fs := by
  rw [planSteps, if_pos restoreFirst_true, runSteps, restoreSteps_eq a b st fs h, mainSteps_eq a b]

end AF.FitFS
