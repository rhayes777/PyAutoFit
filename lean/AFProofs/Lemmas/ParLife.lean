import AFModel.ParLife
import AFProofs.Lemmas.ParEvalFair

/-!
Shutdown of `SneakyPool` (C14): the turns of `__del__` and of the workers as a relation, the invariant on a pool
whose last `map` has returned or raised (quiescent), that a worker served once every `StopCommand` is sent has
left, and the pool a session's `__del__` finds.
-/

namespace AF.ParEval
variable {α : Type} {s s' : DelSt α} {a : Nat}

/-- the caller has a `StopCommand` left to send / the worker is running and has one to take -/
def DelSt.canMove (s : DelSt α) : Nat → Prop
  | 0 => s.sent < s.ws.length
  | k + 1 => ∃ l, s.ws[k]? = some l ∧ l.alive = true ∧ 0 < l.stops

inductive DelSt.Move (s : DelSt α) : Nat → DelSt α → Prop
  | stay {a : Nat} : ¬ s.canMove a → Move s a s
  | send {l : LWorker α} : s.ws[s.sent]? = some l →
      Move s 0 { ws := s.ws.set s.sent { l with stops := l.stops + 1 }, sent := s.sent + 1 }
  | leave {k : Nat} {l : LWorker α} : s.ws[k]? = some l → l.alive = true → 0 < l.stops →
      Move s (k + 1) { s with ws := s.ws.set k { l with stops := l.stops - 1, alive := false } }
  /-- a worker that still has a job or a result (not the case after a finished `map`) -/
  | work {k : Nat} {l : LWorker α} : s.ws[k]? = some l → l.alive = true → (l.w.hold ≠ none ∨ l.w.jobQ ≠ []) →
      Move s (k + 1) { s with ws := s.ws.set k { l with w := l.w.step } }

theorem DelSt.step_move (s : DelSt α) (e : Nat) : s.Move e (s.step e) := by
  cases e with
  | zero =>
    show s.Move 0 s.callerStep
    unfold DelSt.callerStep
    cases hs : s.ws[s.sent]? with
    | none => exact .stay fun hlt : s.sent < s.ws.length => by rw [List.getElem?_eq_getElem hlt] at hs; cases hs
    | some l => exact .send hs
  | succ k =>
    show s.Move (k + 1) (s.workerStep k)
    unfold DelSt.workerStep
    cases hs : s.ws[k]? with
    | none => exact .stay fun ⟨l, hl, _⟩ => by rw [hs] at hl; cases hl
    | some l =>
      have hstay : ¬ (l.alive = true ∧ 0 < l.stops) → s.Move (k + 1) { s with ws := s.ws.set k l } := by
        intro hn
        rw [set_of_getElem? hs]
        exact .stay fun ⟨l', hl', hc⟩ => by rw [hs] at hl'; cases hl'; exact hn hc
      simp only
      unfold LWorker.step
      by_cases ha : l.alive = true
      · rw [if_pos ha]
        cases hh : l.w.hold with
        | some r => exact .work hs ha (.inl (by simp [hh]))
        | none =>
          cases hj : l.w.jobQ with
          | cons j rest => exact .work hs ha (.inr (by simp [hj]))
          | nil =>
            simp only
            split
            · exact .leave hs ha ‹_›
            · exact hstay fun h => ‹¬ 0 < l.stops› h.2
      · simp only [ha]
        exact hstay fun h => ha h.1

theorem DelSt.Move.length (m : s.Move a s') : s'.ws.length = s.ws.length := by
  cases m <;> simp

theorem DelSt.Move.sent_le (m : s.Move a s') : s.sent ≤ s'.sent := by
  cases m <;> simp

theorem DelSt.Move.sent_caller (m : s.Move 0 s') (h : s.sent < s.ws.length) : s'.sent = s.sent + 1 := by
  cases m with
  | stay hn => exact absurd h hn
  | send _ => rfl

theorem DelSt.run_append (s : DelSt α) (a b : List Nat) : s.run (a ++ b) = (s.run a).run b := by
  simp [DelSt.run, List.foldl_append]

theorem DelSt.run_length (s : DelSt α) (evs : List Nat) : (s.run evs).ws.length = s.ws.length :=
  List.foldlRecOn (motive := fun t : DelSt α => t.ws.length = s.ws.length) evs DelSt.step rfl
    fun t h e _ => (t.step_move e).length.trans h

theorem sent_ge (evs : List Nat) : ∀ (s : DelSt α) (n : Nat), n ≤ s.sent + evs.count 0 → n ≤ s.ws.length →
    n ≤ (s.run evs).sent := by
  induction evs with
  | nil => intro s n h _; simpa [DelSt.run] using h
  | cons e t ih =>
    intro s n h hl
    have m := s.step_move e
    refine ih (s.step e) n ?_ (by rw [m.length]; exact hl)
    cases e with
    | zero =>
      simp only [List.count_cons_self] at h
      by_cases hlt : s.sent < s.ws.length
      · rw [m.sent_caller hlt]; omega
      · have := m.sent_le; omega
    | succ k =>
      rw [List.count_cons_of_ne (by omega)] at h
      have := m.sent_le
      omega

def leftK (s : DelSt α) (k : Nat) : Prop := ∃ l : LWorker α, s.ws[k]? = some l ∧ l.alive = false

def aliveK (s : DelSt α) (k : Nat) : Prop := ∃ l : LWorker α, s.ws[k]? = some l ∧ l.alive = true

theorem DelSt.Move.left {a k : Nat} (m : s.Move a s') (h : leftK s k) : leftK s' k := by
  cases m with
  | stay _ => exact h
  | send hs => exact exists_set hs (fun _ h => h) h
  | leave hk _ _ => exact exists_set hk (fun _ _ => rfl) h
  | work hk _ _ => exact exists_set hk (fun _ h => h) h

theorem DelSt.Move.alive {a k : Nat} (m : s.Move a s') (h : aliveK s k) (hne : a ≠ k + 1) : aliveK s' k := by
  cases m with
  | stay _ => exact h
  | send hs => exact exists_set hs (fun _ h => h) h
  | leave hk _ _ => exact exists_set hk (fun e => absurd (by rw [e]) hne) h
  | work hk _ _ => exact exists_set hk (fun _ h => h) h

theorem aliveK_run {k : Nat} (evs : List Nat) (h : aliveK s k) (hm : (k + 1) ∉ evs) : aliveK (s.run evs) k :=
  List.foldlRecOn (motive := fun t => aliveK t k) evs DelSt.step h
    fun t h e he => (t.step_move e).alive h fun e' => hm (e' ▸ he)

/-- nothing but `StopCommand`s is ever on a queue, and every process has been sent at most one, which it has
either not yet taken (alive) or taken (left) -/
structure DelInv (s : DelSt α) : Prop where
  sent_le : s.sent ≤ s.ws.length
  each : ∀ (k : Nat) (l : LWorker α), s.ws[k]? = some l →
    l.w.jobQ = [] ∧ l.w.hold = none ∧ l.w.resQ = [] ∧
      l.stops + (if l.alive = true then 0 else 1) = (if k < s.sent then 1 else 0)

theorem delInv_init (ws : List (Worker α)) (hq : Quiescent ws) : DelInv (initDel ws) := by
  refine ⟨Nat.zero_le _, ?_⟩
  intro k l hk
  simp only [initDel, List.getElem?_map, Option.map_eq_some_iff] at hk
  obtain ⟨w, hw, rfl⟩ := hk
  obtain ⟨h1, h2, h3⟩ := hq w (List.mem_of_getElem? hw)
  exact ⟨h1, h2, h3, by simp; exact Nat.zero_le _⟩

theorem delInv_move (h : DelInv s) (m : s.Move a s') : DelInv s' := by
  cases m with
  | stay _ => exact h
  | @send l0 hs =>
    have hlt := lt_of_getElem?_some hs
    obtain ⟨h1, h2, h3, h4⟩ := h.each _ _ hs
    refine ⟨by simp only [List.length_set]; omega, forall_set (fun k l hne hk => ?_) ⟨h1, h2, h3, ?_⟩⟩
    · obtain ⟨g1, g2, g3, g4⟩ := h.each _ _ hk
      refine ⟨g1, g2, g3, g4.trans ?_⟩
      show (if k < s.sent then 1 else 0) = if k < s.sent + 1 then 1 else 0
      simp only [show k < s.sent + 1 ↔ k < s.sent by omega]
    · simp only [Nat.lt_irrefl, if_false] at h4
      simp only [Nat.lt_succ_self, if_true]
      omega
  | @leave k0 l0 hs ha hst =>
    obtain ⟨h1, h2, h3, h4⟩ := h.each _ _ hs
    refine ⟨by simpa using h.sent_le, forall_set (fun k l _ => h.each k l) ⟨h1, h2, h3, ?_⟩⟩
    rw [if_pos ha] at h4
    show l0.stops - 1 + (if false = true then 0 else 1) = _
    rw [← h4, if_neg Bool.false_ne_true]
    omega
  | work hs _ hb =>
    obtain ⟨h1, h2, _, _⟩ := h.each _ _ hs
    exact (hb.elim (fun hb => hb h2) (fun hb => hb h1)).elim

theorem delInv_run (h : DelInv s) (evs : List Nat) : DelInv (s.run evs) :=
  List.foldlRecOn evs DelSt.step h fun t h e _ => delInv_move h (t.step_move e)

theorem DelSt.Move.served {k : Nat} (m : s.Move (k + 1) s') (hi : DelInv s)
    (hs : s.ws.length ≤ s.sent) (hk : k < s.ws.length) : leftK s' k := by
  have hl : s.ws[k]? = some (s.ws[k]) := List.getElem?_eq_getElem hk
  generalize s.ws[k] = l at hl
  obtain ⟨h1, h2, _, h4⟩ := hi.each _ _ hl
  rw [if_pos (show k < s.sent by omega)] at h4
  cases m with
  | stay hn =>
    refine ⟨l, hl, Classical.byContradiction fun ha => hn ⟨l, hl, ?_⟩⟩
    have ha : l.alive = true := by simpa using ha
    rw [if_pos ha] at h4
    exact ⟨ha, by omega⟩
  | leave hk' _ _ => exact ⟨_, List.getElem?_set_self (lt_of_getElem?_some hk'), rfl⟩
  | work hk' _ hb =>
    rw [hl] at hk'
    cases hk'
    exact (hb.elim (fun hb => hb h2) (fun hb => hb h1)).elim

theorem left_after_served (k : Nat) (evs : List Nat) : ∀ (s : DelSt α), DelInv s → s.ws.length ≤ s.sent →
    k < s.ws.length → (k + 1) ∈ evs → leftK (s.run evs) k := by
  induction evs with
  | nil => intro s _ _ _ h; cases h
  | cons e t ih =>
    intro s hi hs hk hmem
    have m := s.step_move e
    by_cases he : e = k + 1
    · subst he
      exact List.foldlRecOn (motive := fun t => leftK t k) t DelSt.step (m.served hi hs hk)
        fun t h e _ => (t.step_move e).left h
    · exact ih (s.step e) (delInv_move hi m) (by rw [m.length]; exact Nat.le_trans hs m.sent_le)
        (by rw [m.length]; exact hk) ((List.mem_cons.mp hmem).resolve_left (Ne.symm he))

def LWorker.gone (l : LWorker α) : Prop :=
  l.alive = false ∧ l.stops = 0 ∧ l.w.jobQ = [] ∧ l.w.hold = none ∧ l.w.resQ = []

theorem down_of_gone (s : DelSt α) (h : ∀ l ∈ s.ws, l.gone) : s.down = true := by
  have h1 : s.aliveCount = 0 := by
    unfold DelSt.aliveCount
    rw [List.length_eq_zero_iff, List.filter_eq_nil_iff]
    intro l hl
    simp [(h l hl).1]
  have h2 : s.queued = 0 := sum_map_eq_zero fun l hl => by
    obtain ⟨_, g2, g3, g4, g5⟩ := h l hl
    simp [Worker.pipe, g2, g3, g4, g5]
  simp [DelSt.down, h1, h2]

/-- the caller gets `P` turns, then every worker gets one -/
theorem shutdown_phases (ws : List (Worker α)) (hq : Quiescent ws) (e1 e2 : List Nat)
    (h1 : ws.length ≤ e1.count 0) (h2 : ∀ k, k < ws.length → (k + 1) ∈ e2) :
    ∀ l ∈ ((initDel ws).run (e1 ++ e2)).ws, l.gone := by
  have hlen : (initDel ws).ws.length = ws.length := by simp [initDel]
  have hi1 := delInv_run (delInv_init ws hq) e1
  have hs1 : ((initDel ws).run e1).ws.length ≤ ((initDel ws).run e1).sent := by
    rw [DelSt.run_length, hlen]
    exact sent_ge e1 (initDel ws) ws.length (by simpa [initDel] using h1) (by rw [hlen]; exact Nat.le_refl _)
  rw [DelSt.run_append]
  intro l hl
  obtain ⟨k, hget⟩ := List.getElem?_of_mem hl
  have hk' : k < ws.length := by
    have := lt_of_getElem?_some hget
    rwa [DelSt.run_length, DelSt.run_length, hlen] at this
  obtain ⟨l', hl', hd⟩ := left_after_served k e2 _ hi1 hs1 (by rw [DelSt.run_length, hlen]; exact hk') (h2 k hk')
  rw [hget] at hl'
  cases hl'
  obtain ⟨g1, g2, g3, g4⟩ := (delInv_run hi1 e2).each _ _ hget
  refine ⟨hd, ?_, g1, g2, g3⟩
  rw [hd] at g4
  simp only [Bool.false_eq_true, if_false] at g4
  split at g4 <;> omega

/-- `n + 1` fair rounds: the caller is served `n` times, then everybody once more -/
theorem fair_split_phases (P : Nat) (n : Nat) : ∀ (evs : List Nat), n + 1 ≤ fairRounds P evs →
    ∃ a b, evs = a ++ b ∧ n ≤ a.count 0 ∧ ∀ k ∈ List.range (P + 1), k ∈ b := by
  induction n with
  | zero =>
    intro evs h
    obtain ⟨r, rest, he, hall, _⟩ := fairScan_split P evs _ 0 h
    refine ⟨[], evs, rfl, Nat.zero_le _, ?_⟩
    intro k hk
    rw [he]
    exact List.mem_append_left _ (hall k hk)
  | succ n ih =>
    intro evs h
    obtain ⟨r, rest, he, hall, hrest⟩ := fairScan_split P evs _ (n + 1) h
    obtain ⟨a, b, hab, hc, hb⟩ := ih rest hrest
    refine ⟨r ++ a, b, by rw [he, hab, List.append_assoc], ?_, hb⟩
    have h0 : 0 ∈ r := hall 0 (List.mem_range.mpr (Nat.succ_pos _))
    have : 1 ≤ r.count 0 := List.count_pos_iff.mpr h0
    rw [List.count_append]
    omega

theorem no_result_in_shutdown (ws : List (Worker α)) (hq : Quiescent ws) (evs : List Nat) :
    ∀ l ∈ ((initDel ws).run evs).ws, l.w.jobQ = [] ∧ l.w.hold = none ∧ l.w.resQ = [] := by
  intro l hl
  obtain ⟨k, hk⟩ := List.getElem?_of_mem hl
  have := (delInv_run (delInv_init ws hq) evs).each k l hk
  exact ⟨this.1, this.2.1, this.2.2.1⟩

theorem shutdown_of_quiescent (ws : List (Worker α)) (hq : Quiescent ws) {P : Nat} (hl : ws.length = P)
    (dels : List Nat) : ((initDel ws).run dels).results = 0 ∧
      (P + 1 ≤ fairRounds P dels → ((initDel ws).run dels).down = true) := by
  subst hl
  refine ⟨sum_map_eq_zero fun l hl => by simp [(no_result_in_shutdown ws hq dels l hl).2], fun hfair => ?_⟩
  obtain ⟨a, b, he, ha, hb⟩ := fair_split_phases ws.length ws.length dels hfair
  rw [he]
  exact down_of_gone _ (shutdown_phases ws hq a b ha fun k hk => hb (k + 1) (List.mem_range.mpr (by omega)))

theorem runBatches_done (fuel : Nat) (bs : List (List (Res α) × List Nat)) : ∀ (ws : List (Worker α)),
    Quiescent ws → ws ≠ [] → (∀ s ∈ runBatches fuel ws bs, s.finished = true) →
    (runBatches fuel ws bs).map MapSt.output = bs.map (fun b => serial b.1) ∧
      ∀ s ∈ runBatches fuel ws bs, Quiescent s.ws ∧ s.ws.length = ws.length := by
  induction bs with
  | nil => intro ws _ _ _; exact ⟨rfl, fun s hs => by cases hs⟩
  | cons b rest ih =>
    intro ws hq hp hf
    obtain ⟨js, sched⟩ := b
    simp only [runBatches, List.mem_cons, forall_eq_or_imp, List.map_cons] at hf ⊢
    obtain ⟨hd, hl1⟩ := mapBatch_done ws js sched fuel hq hp hf.1
    have hp1 : (mapBatch ws js sched fuel).ws ≠ [] := fun e => hp (List.eq_nil_of_length_eq_zero (by rw [← hl1, e]; rfl))
    obtain ⟨h1, h2⟩ := ih _ hd.quiet hp1 hf.2
    exact ⟨by rw [hd.output, h1], ⟨hd.quiet, hl1⟩, fun s hs => (h2 s hs).imp id (·.trans hl1)⟩

end AF.ParEval
