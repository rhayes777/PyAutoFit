import AFModel.Query
import AFProofs.Lemmas.Sort

/-! Lemmas about the `Query` model. A junction means a quantifier (`quant`) over the *set* of its conditions, so
flattening, partitioning and grouping by key keep the meaning because they keep the members; one round of
`_match_conditions` is proved for any junction builder (`merge_round_sem`) and serves `mkJ` and `mkJS`. At the end
`Witness`: the concrete database and predicates on which C10.lean evaluates its refutations and examples. -/

namespace AF.Query

variable {α : Type}

/-! ### the quantifier of a junction -/

/-- `all` for `And`, `any` for `Or` -/
def quant {β} (isAnd : Bool) (l : List β) (p : β → Bool) : Bool := bif isAnd then l.all p else l.any p

theorem quant_cons {β} (b : Bool) (a : β) (l : List β) (p : β → Bool) :
    quant b (a :: l) p = bif b then p a && quant b l p else p a || quant b l p := by
  cases b <;> rfl

theorem quant_append {β} (b : Bool) (l₁ l₂ : List β) (p : β → Bool) :
    quant b (l₁ ++ l₂) p = bif b then quant b l₁ p && quant b l₂ p else quant b l₁ p || quant b l₂ p := by
  cases b <;> simp [quant]

theorem quant_map {β γ} (b : Bool) (l : List γ) (g : γ → β) (p : β → Bool) :
    quant b (l.map g) p = quant b l (fun x => p (g x)) := by
  cases b <;> simp [quant, Function.comp_def]

theorem quant_flatMap {β γ} (b : Bool) (l : List γ) (g : γ → List β) (p : β → Bool) :
    quant b (l.flatMap g) p = quant b l (fun x => quant b (g x) p) := by
  cases b <;> simp [quant]

theorem quant_congr {β} {b : Bool} {l : List β} {p q : β → Bool} (h : ∀ x ∈ l, p x = q x) : quant b l p = quant b l q := by
  induction l with
  | nil => cases b <;> rfl
  | cons a l ih =>
    rw [quant_cons, quant_cons, h a List.mem_cons_self, ih (fun x hx => h x (List.mem_cons_of_mem _ hx))]

theorem quant_eq_true {β} {b : Bool} {l : List β} {p : β → Bool} :
    quant b l p = true ↔ if b then ∀ x ∈ l, p x = true else ∃ x ∈ l, p x = true := by
  cases b <;> simp [quant]

theorem quant_of_mem_iff {β} {l₁ l₂ : List β} (h : ∀ x, x ∈ l₁ ↔ x ∈ l₂) (b : Bool) (p : β → Bool) :
    quant b l₁ p = quant b l₂ p := by
  rw [Bool.eq_iff_iff, quant_eq_true, quant_eq_true]
  simp only [h]

/-! ### tables -/

@[simp] theorem Tables.union_empty (a : Tables) : a.union {} = a := by
  cases a; simp [Tables.union]

@[simp] theorem Tables.empty_union (a : Tables) : Tables.union {} a = a := by
  cases a; simp [Tables.union]

theorem Tables.union_assoc (a b c : Tables) : (a.union b).union c = a.union (b.union c) := by
  simp [Tables.union, Bool.or_assoc]

@[simp] theorem Tables.union_self (a : Tables) : a.union a = a := by
  cases a; simp [Tables.union]

@[simp] theorem inTables_empty (k : Obj α) : k.inTables {} = true := by
  cases k <;> simp [Obj.inTables]

theorem inTables_union (a b : Tables) (k : Obj α) :
    k.inTables (a.union b) = (k.inTables a && k.inTables b) := by
  cases k <;> simp only [Obj.inTables, Tables.union, Bool.not_or] <;> ac_rfl

theorem contribAll_append (a b : List (Q α)) : contribAll (a ++ b) = (contribAll a).union (contribAll b) := by
  induction a with
  | nil => simp [contribAll]
  | cons x a ih => simp [contribAll, ih, Tables.union_assoc]

theorem inTables_contribAll (cs : List (Q α)) (k : Obj α) :
    k.inTables (contribAll cs) = cs.all (fun c => k.inTables (contrib c)) := by
  induction cs with
  | nil => simp [contribAll]
  | cons c cs ih => simp [contribAll, inTables_union, ih]

theorem contribAll_const {cs : List (Q α)} {t : Tables} (hne : cs ≠ []) (h : ∀ c ∈ cs, contrib c = t) :
    contribAll cs = t := by
  induction cs with
  | nil => exact absurd rfl hne
  | cons c cs ih =>
    have hc := h c (List.mem_cons_self)
    cases cs with
    | nil => simp [contribAll, hc]
    | cons d ds =>
      have := ih (by simp) (fun x hx => h x (List.mem_cons_of_mem _ hx))
      simp only [contribAll] at this ⊢
      rw [this, hc]; simp

theorem contribAll_eq_empty {cs : List (Q α)} (h : ∀ c ∈ cs, contrib c = {}) : contribAll cs = {} := by
  induction cs with
  | nil => rfl
  | cons c cs ih =>
    simp [contribAll, h c (List.mem_cons_self), ih (fun x hx => h x (List.mem_cons_of_mem _ hx))]

theorem contribAll_filter {cs : List (Q α)} {p : Q α → Bool} (h : ∀ c ∈ cs, p c = false → contrib c = {}) :
    contribAll (cs.filter p) = contribAll cs := by
  induction cs with
  | nil => rfl
  | cons c cs ih =>
    have ih' := ih (fun x hx => h x (List.mem_cons_of_mem _ hx))
    cases hp : p c
    · simp [hp, contribAll, ih', h c (List.mem_cons_self) hp]
    · simp [hp, contribAll, ih']

theorem contrib_junction (isAnd : Bool) (cs : List (Q α)) : contrib (junction isAnd cs) = contribAll cs := by
  cases isAnd <;> simp [junction, contrib]

theorem contrib_collapse (isAnd : Bool) (qs : List (Q α)) : contrib (collapse isAnd qs) = contribAll qs := by
  match qs with
  | [] => simp [collapse, contrib_junction]
  | [q] => simp [collapse, contribAll]
  | a :: b :: r => simp [collapse, contrib_junction]

theorem contribAll_flat1 (isAnd : Bool) (c : Q α) : contribAll (flat1 isAnd c) = contrib c := by
  unfold flat1
  split
  · rfl
  · rfl
  · exact Tables.union_empty _

theorem contribAll_flat (isAnd : Bool) (cs : List (Q α)) : contribAll (flat isAnd cs) = contribAll cs := by
  induction cs with
  | nil => rfl
  | cons c cs ih =>
    rw [flat, List.flatMap_cons, contribAll_append, contribAll_flat1, ← flat, ih]
    rfl

theorem contrib_of_mergeable {cfg : Cfg} {c : Q α} (h : mergeable cfg c = true) : contrib c = {} := by
  cases c <;> simp [mergeable] at h <;> simp [contrib]

/-- one round of `_match_conditions` keeps the tables: named queries contribute none -/
theorem contribAll_merge {κ} {m : Q α → Bool} (hm : ∀ c, m c = true → contrib c = {}) (fl : List (Q α)) (keys : List κ)
    (n : κ → String) (body : κ → Q α) :
    contribAll (fl.filter (fun c => !m c) ++ keys.map (fun k => Q.named (n k) false (body k))) = contribAll fl := by
  rw [contribAll_append, contribAll_eq_empty (cs := List.map _ _), Tables.union_empty, contribAll_filter]
  · exact fun c _ hc => hm c (by simpa using hc)
  · intro c hc
    obtain ⟨k, _, rfl⟩ := List.mem_map.mp hc
    rfl

theorem contrib_mkJ (cfg : Cfg) : ∀ (fuel : Nat) (isAnd : Bool) (cs : List (Q α)),
    contrib (mkJ cfg fuel isAnd cs) = contribAll cs
  | 0, isAnd, cs => contrib_junction isAnd cs
  | fuel + 1, isAnd, cs => by
    simp only [mkJ]
    rw [contrib_collapse, contribAll_merge (fun c => contrib_of_mergeable), contribAll_flat]

/-! ### meaning of junctions -/

variable (ops : NumOps α) (f : Fit α)

/-- meaning of `And` / `Or` over a list of conditions -/
def jsem (isAnd : Bool) (cs : List (Q α)) (o : Obj α) : Bool := quant isAnd cs (fun c => sem ops f c o)

@[simp] theorem sem_and (cs : List (Q α)) (o : Obj α) : sem ops f (.and cs) o = cs.all (fun c => sem ops f c o) := by
  rw [sem]
  induction cs with
  | nil => rfl
  | cons c cs ih => rw [semAll, ih, List.all_cons]

@[simp] theorem sem_or (cs : List (Q α)) (o : Obj α) : sem ops f (.or cs) o = cs.any (fun c => sem ops f c o) := by
  rw [sem]
  induction cs with
  | nil => rfl
  | cons c cs ih => rw [semAny, ih, List.any_cons]

theorem sem_junction (isAnd : Bool) (cs : List (Q α)) (o : Obj α) :
    sem ops f (junction isAnd cs) o = jsem ops f isAnd cs o := by
  cases isAnd
  · exact sem_or ops f cs o
  · exact sem_and ops f cs o

theorem sem_collapse (isAnd : Bool) (qs : List (Q α)) (o : Obj α) :
    sem ops f (collapse isAnd qs) o = jsem ops f isAnd qs o := by
  match qs with
  | [] => exact sem_junction ops f isAnd [] o
  | [q] => cases isAnd <;> simp [collapse, jsem, quant]
  | a :: b :: r => exact sem_junction ops f isAnd _ o

theorem jsem_of_mem_iff {l₁ l₂ : List (Q α)} (h : ∀ x, x ∈ l₁ ↔ x ∈ l₂) (isAnd : Bool) (o : Obj α) :
    jsem ops f isAnd l₁ o = jsem ops f isAnd l₂ o :=
  quant_of_mem_iff h isAnd _

theorem jsem_flat1 (isAnd : Bool) (c : Q α) (o : Obj α) :
    jsem ops f isAnd (flat1 isAnd c) o = sem ops f c o := by
  unfold flat1
  split
  · exact (sem_and ops f _ o).symm
  · exact (sem_or ops f _ o).symm
  · cases isAnd <;> simp [jsem, quant]

theorem jsem_flat (isAnd : Bool) (cs : List (Q α)) (o : Obj α) :
    jsem ops f isAnd (flat isAnd cs) o = jsem ops f isAnd cs o :=
  (quant_flatMap isAnd cs _ _).trans (quant_congr fun c _ => jsem_flat1 ops f isAnd c o)

theorem jsem_map_groups {κ} (isAnd : Bool) (rest : List (Q α)) (keys : List κ) (g : κ → Q α) (grp : κ → List (Q α))
    (o : Obj α) (h : ∀ k ∈ keys, sem ops f (g k) o = jsem ops f isAnd (grp k) o) :
    jsem ops f isAnd (rest ++ keys.map g) o = jsem ops f isAnd (rest ++ keys.flatMap grp) o := by
  simp only [jsem, quant_append, quant_map, quant_flatMap]
  rw [quant_congr h]
  rfl

/-! ### children of an object with unique names -/

theorem any_name_false {β} {n : String} {R : β → Bool} : ∀ {ks : List (String × β)},
    (ks.map (·.1)).contains n = false → ks.any (fun mk => mk.1 == n && R mk.2) = false
  | [], _ => rfl
  | (m, k) :: r, h => by
    simp only [List.map_cons, List.contains_cons, Bool.or_eq_false_iff] at h
    have hmn : (m == n) = false := BEq.comm.trans h.1
    simp [hmn, any_name_false (ks := r) h.2]

theorem any_eq_lookup {β} {n : String} {R : β → Bool} : ∀ {ks : List (String × β)},
    nodupNames (ks.map (·.1)) = true →
    ks.any (fun mk => mk.1 == n && R mk.2) = (ks.lookup n).any R
  | [], _ => rfl
  | (m, k) :: r, h => by
    simp only [List.map_cons, nodupNames, Bool.and_eq_true, Bool.not_eq_true'] at h
    by_cases hmn : m = n
    · subst hmn
      simp [List.lookup, any_name_false (R := R) h.1]
    · have h1 : (m == n) = false := by simpa using hmn
      have h2 : (n == m) = false := by simpa using (fun e : n = m => hmn e.symm)
      simp [List.lookup, h1, h2, any_eq_lookup (ks := r) h.2]

theorem WF_node {cls : String} {ks : List (String × Obj α)} (h : (Obj.node cls ks).WF = true) :
    nodupNames (ks.map (·.1)) = true ∧ WFKids ks = true := by
  simpa [Obj.WF] using h

theorem WFKids_mem : ∀ {ks : List (String × Obj α)}, WFKids ks = true → ∀ mk ∈ ks, mk.2.WF = true
  | [], _, _, hm => by simp at hm
  | (m, k) :: r, h, mk, hm => by
    simp only [WFKids, Bool.and_eq_true] at h
    rcases List.mem_cons.mp hm with rfl | hm
    · exact h.1
    · exact WFKids_mem h.2 mk hm

theorem WF_get {o k : Obj α} {n : String} (h : o.WF = true) (hg : o.get n = some k) : k.WF = true := by
  cases o with
  | node cls ks =>
    obtain ⟨l₁, l₂, rfl, _⟩ := List.lookup_eq_some_iff.mp hg
    exact WFKids_mem (WF_node h).2 (n, k) (by simp)
  | _ => cases hg

theorem matchKid_eq_get {o : Obj α} (h : o.WF = true) (n : String) (t : Tables) (P : Obj α → Bool) :
    matchKid n t P o = (o.get n).any (fun k => k.inTables t && P k) := by
  cases o with
  | node cls ks =>
    have := WF_node h
    simp only [matchKid, Obj.kids, Obj.get]
    exact any_eq_lookup (n := n) (R := fun k => k.inTables t && P k) this.1
  | _ => simp [matchKid, Obj.kids, Obj.get]

/-! ### merging named queries -/

theorem sem_named {o : Obj α} (h : o.WF = true) (n : String) (inv : Bool) (c : Q α) :
    sem ops f (.named n inv c) o = (inv != (o.get n).any (fun k => k.inTables (contrib c) && sem ops f c k)) := by
  rw [sem, matchKid_eq_get h]

/-- `Named(n, J(d₁ … dₖ))` means `J(Named(n, d₁) … Named(n, dₖ))` when the child names are unique; under `Or` only
when all `dᵢ` join the same tables `t`, which is why `groupKey` then holds the tables. -/
theorem merge_named_sem (isAnd : Bool) (J : List (Q α) → Q α)
    (hsem : ∀ (ds : List (Q α)) (k : Obj α), k.WF = true → sem ops f (J ds) k = jsem ops f isAnd ds k)
    (hcon : ∀ ds, contrib (J ds) = contribAll ds)
    (n : String) (ds : List (Q α)) (hne : ds ≠ []) (t : Tables) (ht : isAnd = false → ∀ d ∈ ds, contrib d = t)
    (o : Obj α) (hwf : o.WF = true) :
    sem ops f (.named n false (J ds)) o = jsem ops f isAnd (ds.map (.named n false)) o := by
  simp only [jsem, quant_map, sem_named ops f hwf, Bool.false_bne, hcon]
  cases hget : o.get n with
  | none =>
    cases isAnd
    · simp [quant]
    · cases ds with
      | nil => exact absurd rfl hne
      | cons d ds => rfl
  | some k =>
    simp only [Option.any_some, hsem ds k (WF_get hwf hget), jsem]
    cases isAnd
    · rw [contribAll_const hne (ht rfl)]
      exact List.and_any_distrib_left.trans (quant_congr (b := false) fun d hd => by rw [ht rfl d hd])
    · rw [inTables_contribAll, Bool.eq_iff_iff]
      simp only [quant, cond_true, List.all_eq_true, Bool.and_eq_true, imp_and, forall_and]

theorem named_of_group {cfg : Cfg} (hcfg : cfg.junctionKeepsNot = true) {isAnd : Bool} {k : String × Option Tables}
    {q : Q α} (hm : mergeable cfg q = true) (hk : groupKey isAnd q = k) :
    ∃ c, q = .named k.1 false c ∧ (isAnd = false → contrib c = k.2.getD {}) := by
  cases q with
  | named n inv c =>
    simp only [mergeable, hcfg, Bool.true_and, Bool.and_eq_true, Bool.not_eq_true'] at hm
    obtain rfl := hm.2
    subst hk
    exact ⟨c, rfl, fun h => by subst h; rfl⟩
  | _ => simp [mergeable] at hm

theorem eq_map_other {n : String} : ∀ {g : List (Q α)}, (∀ q ∈ g, ∃ c, q = .named n false c) →
    g = (g.filterMap Q.other).map (.named n false)
  | [], _ => rfl
  | q :: g, h => by
    obtain ⟨c, rfl⟩ := h q List.mem_cons_self
    exact congrArg _ (eq_map_other fun q hq => h q (List.mem_cons_of_mem _ hq))

theorem mem_dedupKeys {κ} [BEq κ] [LawfulBEq κ] {k : κ} : ∀ {l : List κ}, k ∈ dedupKeys l ↔ k ∈ l
  | [] => by simp [dedupKeys]
  | a :: l => by
    simp only [dedupKeys, List.mem_cons, List.mem_filter, mem_dedupKeys (l := l), Bool.not_eq_eq_eq_not, Bool.not_true,
      beq_eq_false_iff_ne]
    by_cases hk : k = a <;> simp [hk]

theorem mem_partition_groups {β κ} [BEq κ] [LawfulBEq κ] (l : List β) (m : β → Bool) (key : β → κ) (x : β) :
    x ∈ l.filter (fun c => !m c) ++
        (dedupKeys ((l.filter m).map key)).flatMap (fun k => (l.filter m).filter (fun c => key c == k)) ↔ x ∈ l := by
  simp only [List.mem_append, List.mem_filter, List.mem_flatMap, mem_dedupKeys, List.mem_map]
  constructor
  · rintro (h | ⟨_, _, h, _⟩)
    · exact h.1
    · exact h.1
  · intro h
    by_cases hm : m x = true
    · exact Or.inr ⟨key x, ⟨x, ⟨h, hm⟩, rfl⟩, ⟨h, hm⟩, by simp⟩
    · exact Or.inl ⟨h, by simp [hm]⟩

/-- one round of `_match_conditions` on a flattened list keeps the meaning, for any merge test `m` that implies
`mergeable` and any builder `J` of the merged junctions -/
theorem merge_round_sem (cfg : Cfg) (hcfg : cfg.junctionKeepsNot = true) (isAnd : Bool) (J : List (Q α) → Q α)
    (hsem : ∀ (ds : List (Q α)) (k : Obj α), k.WF = true → sem ops f (J ds) k = jsem ops f isAnd ds k)
    (hcon : ∀ ds, contrib (J ds) = contribAll ds)
    (m : Q α → Bool) (hm : ∀ c, m c = true → mergeable cfg c = true) (fl : List (Q α)) (o : Obj α) (hwf : o.WF = true) :
    jsem ops f isAnd (fl.filter (fun c => !m c) ++ (dedupKeys ((fl.filter m).map (groupKey isAnd))).map fun k =>
      Q.named k.1 false (J (((fl.filter m).filter (fun c => groupKey isAnd c == k)).filterMap Q.other))) o
      = jsem ops f isAnd fl o := by
  refine (jsem_map_groups ops f isAnd _ _ _ (fun k => (fl.filter m).filter (fun c => groupKey isAnd c == k)) o ?_).trans
    (jsem_of_mem_iff ops f (mem_partition_groups fl m (groupKey isAnd)) isAnd o)
  intro k hk
  obtain ⟨q, hq, hqk⟩ := List.mem_map.mp (mem_dedupKeys.mp hk)
  have hq : q ∈ (fl.filter m).filter (fun c => groupKey isAnd c == k) := List.mem_filter.mpr ⟨hq, by simp [hqk]⟩
  have hnamed : ∀ x ∈ (fl.filter m).filter (fun c => groupKey isAnd c == k),
      ∃ c, x = .named k.1 false c ∧ (isAnd = false → contrib c = k.2.getD {}) := fun x hx =>
    have hx := List.mem_filter.mp hx
    named_of_group hcfg (hm x (List.mem_filter.mp hx.1).2) (eq_of_beq hx.2)
  have hg := eq_map_other fun x hx => (hnamed x hx).imp fun c h => h.1
  refine (merge_named_sem ops f isAnd J hsem hcon k.1 _ ?_ (k.2.getD {}) ?_ o hwf).trans (by rw [← hg])
  · intro hnil
    rw [hnil] at hg
    exact List.not_mem_nil (hg ▸ hq)
  · intro hA d hd
    obtain ⟨x, hx, hxd⟩ := List.mem_filterMap.mp hd
    obtain ⟨c, rfl, hc⟩ := hnamed x hx
    cases hxd
    exact hc hA

theorem mkJ_sem (cfg : Cfg) (hcfg : cfg.junctionKeepsNot = true) : ∀ (fuel : Nat) (isAnd : Bool) (cs : List (Q α))
    (o : Obj α), o.WF = true → sem ops f (mkJ cfg fuel isAnd cs) o = jsem ops f isAnd cs o
  | 0, isAnd, cs, o, _ => sem_junction ops f isAnd cs o
  | fuel + 1, isAnd, cs, o, hwf => by
    simp only [mkJ]
    rw [sem_collapse, merge_round_sem ops f cfg hcfg isAnd _ (fun ds k hk => mkJ_sem cfg hcfg fuel isAnd ds k hk)
      (contrib_mkJ cfg fuel isAnd) _ (fun _ h => h) _ o hwf, jsem_flat]

/-! ### paths, negation -/

theorem sem_leafQ (leaf : Leaf α) (o : Obj α) : sem ops f (leafQ leaf) o = leafHolds ops leaf o := by
  cases leaf <;> cases o <;> rfl

theorem leaf_inTables (leaf : Leaf α) (k : Obj α) (h : leafHolds ops leaf k = true) :
    k.inTables (contrib (leafQ leaf)) = true := by
  cases leaf <;> cases k <;> simp_all [leafQ, contrib, contribAll, Obj.inTables, leafHolds]

theorem sem_pathQ (leaf : Leaf α) : ∀ (names : List String) (o : Obj α), o.WF = true →
    sem ops f (pathQ names leaf) o = (o.follow names).any (leafHolds ops leaf)
  | [], o, _ => by simp [pathQ, sem_leafQ, Obj.follow]
  | n :: ns, o, hwf => by
    rw [show pathQ (n :: ns) leaf = .named n false (pathQ ns leaf) from rfl, sem_named ops f hwf, Obj.follow]
    cases hget : o.get n with
    | none => rfl
    | some k =>
      rw [Option.any_some, Bool.false_bne, sem_pathQ leaf ns k (WF_get hwf hget)]
      -- the joins below the name never drop the child the path leads through
      cases ns with
      | nil =>
        cases hl : leafHolds ops leaf k
        · simp [Obj.follow, hl]
        · simp [Obj.follow, hl, pathQ, leaf_inTables ops leaf k hl]
      | cons m ms => rw [show contrib (pathQ (m :: ms) leaf) = {} from rfl, inTables_empty, Bool.true_and]

theorem sem_invert (q : Q α) (o : Obj α) : sem ops f (invert q) o = !sem ops f q o := by
  cases q
  case named n inv c => rw [invert, sem, sem, Bool.not_bne]
  case inverted q => rw [invert, sem, Bool.not_not]
  all_goals rfl

/-- `C` is `compile` with `mk = mkJ`, or `compileS` with `mk = mkJS` -/
theorem sem_compile_of (hwf : f.inst.WF = true) (mk : Bool → List (Q α) → Q α)
    (hmk : ∀ isAnd cs, sem ops f (mk isAnd cs) f.inst = jsem ops f isAnd cs f.inst) (C : Pred α → Q α)
    (hpath : ∀ n ns leaf, C (.path n ns leaf) = pathQ (n :: ns) leaf) (hfitc : ∀ c, C (.fitc c) = .fitc c)
    (hand : ∀ x y, C (.and x y) = mk true [C x, C y]) (hor : ∀ x y, C (.or x y) = mk false [C x, C y])
    (hnot : ∀ x, C (.not x) = invert (C x)) (p : Pred α) : sem ops f (C p) f.inst = evalDirect ops f p := by
  induction p with
  | path n ns leaf =>
    rw [hpath, evalDirect, sem_pathQ ops f leaf (n :: ns) f.inst hwf]
    cases f.inst.follow (n :: ns) <;> rfl
  | fitc c => rw [hfitc, sem, evalDirect]
  | and x y ihx ihy =>
    rw [hand, hmk, evalDirect, ← ihx, ← ihy]
    exact congrArg (sem ops f (C x) f.inst && ·) (Bool.and_true _)
  | or x y ihx ihy =>
    rw [hor, hmk, evalDirect, ← ihx, ← ihy]
    exact congrArg (sem ops f (C x) f.inst || ·) (Bool.or_false _)
  | not x ih => rw [hnot, sem_invert, evalDirect, ih]

theorem sem_compile (cfg : Cfg) (hcfg : cfg.junctionKeepsNot = true) (fuel : Nat) (hwf : f.inst.WF = true) :
    ∀ (p : Pred α), sem ops f (compile cfg fuel p) f.inst = evalDirect ops f p :=
  sem_compile_of ops f hwf (mkJ cfg fuel) (fun isAnd cs => mkJ_sem ops f cfg hcfg fuel isAnd cs _ hwf) (compile cfg fuel)
    (fun _ _ _ => rfl) (fun _ => rfl) (fun _ _ => rfl) (fun _ _ => rfl) (fun _ => rfl)

section rows
variable {α : Type} [DecidableEq α] (ops : NumOps α) (T : List (Row α)) (f : Fit α)

theorem rep_payload {r : Row α} {o : Obj α} (h : repCheck T r o = true) :
    r.payload = match o with
      | .num x => .num x | .str s => .str s | .nul => .nul | .node cls _ => .inst cls := by
  cases o <;> simp only [repCheck, Bool.and_eq_true, decide_eq_true_eq] at h <;> exact h.1

theorem rep_kids {r : Row α} {o : Obj α} (h : repCheck T r o = true) : repKids T (kidsOf T r) o.kids = true := by
  cases o <;> simp only [repCheck, Bool.and_eq_true, List.isEmpty_iff] at h
  case node => exact h.2
  all_goals rw [h.2]; rfl

theorem inTables_of_rep (t : Tables) (r : Row α) (o : Obj α) (h : repCheck T r o = true) :
    r.inTables t = o.inTables t := by
  rw [Row.inTables, rep_payload T h]
  cases o <;> rfl

theorem repKids_any (n : String) (g : Row α → Bool) (g' : Obj α → Bool) :
    ∀ (rs : List (Row α)) (ks : List (String × Obj α)), repKids T rs ks = true →
      (∀ r o, repCheck T r o = true → g r = g' o) →
      rs.any (fun r => r.name == n && g r) = ks.any (fun mk => mk.1 == n && g' mk.2)
  | [], [], _, _ => rfl
  | [], _ :: _, h, _ => by simp [repKids] at h
  | _ :: _, [], h, _ => by simp [repKids] at h
  | r :: rs, (m, o) :: ks, h, hg => by
    simp only [repKids, Bool.and_eq_true, beq_iff_eq] at h
    obtain ⟨⟨hn, hr⟩, hrest⟩ := h
    simp only [List.any_cons, hn, hg r o hr, repKids_any n g g' rs ks hrest hg]

mutual
theorem rsem_eq_sem : ∀ (q : Q α) (r : Row α) (o : Obj α), repCheck T r o = true →
    rsem ops T f q r = sem ops f q o
  | .value op c, r, o, h => by rw [rsem, rep_payload T h]; cases o <;> rfl
  | .strv op s, r, o, h => by rw [rsem, rep_payload T h]; cases o <;> rfl
  | .isNone, r, o, h => by rw [rsem, rep_payload T h]; cases o <;> rfl
  | .type cp, r, o, h => by rw [rsem, rep_payload T h]; cases o <;> rfl
  | .fitc c, r, o, h => by rw [rsem, sem]
  | .inverted q, r, o, h => by rw [rsem, sem, rsem_eq_sem q r o h]
  | .and cs, r, o, h => by rw [rsem, sem]; exact rsemAll_eq_semAll cs r o h
  | .or cs, r, o, h => by rw [rsem, sem]; exact rsemAny_eq_semAny cs r o h
  | .named n inv c, r, o, h => by
    have hkids := repKids_any T n (fun r' => r'.inTables (contrib c) && rsem ops T f c r')
      (fun o' => o'.inTables (contrib c) && sem ops f c o') _ _ (rep_kids T h) fun r' o' h' => by
        rw [inTables_of_rep T _ r' o' h', rsem_eq_sem c r' o' h']
    rw [rsem, sem, matchKid, ← hkids]
    simp only [kidsOf, List.any_filter]
theorem rsemAll_eq_semAll : ∀ (cs : List (Q α)) (r : Row α) (o : Obj α), repCheck T r o = true →
    rsemAll ops T f cs r = semAll ops f cs o
  | [], _, _, _ => rfl
  | c :: cs, r, o, h => by rw [rsemAll, semAll, rsem_eq_sem c r o h, rsemAll_eq_semAll cs r o h]
theorem rsemAny_eq_semAny : ∀ (cs : List (Q α)) (r : Row α) (o : Obj α), repCheck T r o = true →
    rsemAny ops T f cs r = semAny ops f cs o
  | [], _, _, _ => rfl
  | c :: cs, r, o, h => by rw [rsemAny, semAny, rsem_eq_sem c r o h, rsemAny_eq_semAny cs r o h]
end

end rows

section order
variable {β : Type} (le : β → β → Bool)

theorem isort_eq (l : List β) : isort le l = sortBy (fun a b => le a b = true) l :=
  eq_sortBy _ (ins := insertBy le) (fun _ => rfl) (fun _ _ _ => rfl) rfl (fun _ _ => rfl) l

theorem perm_isort (l : List β) : (isort le l).Perm l :=
  isort_eq le l ▸ perm_sortBy _ l

theorem sorted_isort (htrans : ∀ a b c, le a b = true → le b c = true → le a c = true)
    (htotal : ∀ a b, le a b = true ∨ le b a = true) (l : List β) :
    (isort le l).Pairwise (fun a b => le a b = true) :=
  isort_eq le l ▸ sorted_sortBy (fun a b => le a b = true) htotal htrans l

end order

theorem lexStep_iff {p q r : Bool} (ht : p = true ∨ q = true) :
    (if p && !q then true else if q && !p then false else r) = true ↔ p = true ∧ (q = true → r = true) := by
  cases p <;> cases q <;> simp_all

theorem lexStep_total {β : Type} {le rest : β → β → Bool} (hr : ∀ a b, rest a b = true ∨ rest b a = true) (a b : β) :
    (if le a b && !le b a then true else if le b a && !le a b then false else rest a b) = true ∨
      (if le b a && !le a b then true else if le a b && !le b a then false else rest b a) = true := by
  cases le a b <;> cases le b a <;> simp <;> exact hr a b

section lexStep
variable {β : Type} {le rest : β → β → Bool} (ht : ∀ a b, le a b = true ∨ le b a = true)
include ht

/-- if `c ≤ a` as well, then `a`, `b`, `c` all tie under `le`, and `rest` decides -/
theorem lexStep_trans (htr : ∀ a b c, le a b = true → le b c = true → le a c = true)
    (hr : ∀ a b c, rest a b = true → rest b c = true → rest a c = true) (a b c : β) :
    (if le a b && !le b a then true else if le b a && !le a b then false else rest a b) = true →
    (if le b c && !le c b then true else if le c b && !le b c then false else rest b c) = true →
    (if le a c && !le c a then true else if le c a && !le a c then false else rest a c) = true := by
  rw [lexStep_iff (ht a b), lexStep_iff (ht b c), lexStep_iff (ht a c)]
  exact fun ⟨hab, tab⟩ ⟨hbc, tbc⟩ =>
    ⟨htr a b c hab hbc, fun hca => hr a b c (tab (htr b c a hbc hca)) (tbc (htr c a b hca hab))⟩

end lexStep

section lex
variable (numLe : α → α → Bool)

theorem avalLe_total (htotal : ∀ a b, numLe a b = true ∨ numLe b a = true) (a b : AVal α) :
    avalLe numLe a b = true ∨ avalLe numLe b a = true := by
  cases a <;> cases b <;> simp [avalLe]
  case str.str s t =>
    rcases String.le_total s t with h | h
    · exact Or.inl (String.not_lt.mpr h)
    · exact Or.inr (String.not_lt.mpr h)
  case bool.bool x y => cases x <;> cases y <;> simp
  case num.num x y => exact htotal x y

theorem avalLe_trans (htrans : ∀ a b c, numLe a b = true → numLe b c = true → numLe a c = true) (a b c : AVal α) :
    avalLe numLe a b = true → avalLe numLe b c = true → avalLe numLe a c = true := by
  cases a <;> cases b <;> cases c <;> simp [avalLe]
  case str.str.str s t u =>
    intro h1 h2
    exact String.not_lt.mpr (String.le_trans (String.not_lt.mp h1) (String.not_lt.mp h2))
  case bool.bool.bool x y z => cases x <;> cases y <;> cases z <;> simp
  case num.num.num x y z => exact htrans x y z

/-- the comparison on column `k` with DESC taken into account -/
def keyR (k : OrderKey) (u v : AVal α) : Bool := if k.reverse then avalLe numLe v u else avalLe numLe u v

theorem lexLe_cons (k : OrderKey) (ks : List OrderKey) (x y : Fit α) :
    lexLe numLe (k :: ks) x y =
      (if keyR numLe k (x.attr k.attr) (y.attr k.attr) && !keyR numLe k (y.attr k.attr) (x.attr k.attr) then true
       else if keyR numLe k (y.attr k.attr) (x.attr k.attr) && !keyR numLe k (x.attr k.attr) (y.attr k.attr) then false
       else lexLe numLe ks x y) := by
  cases k with
  | mk attr rev => cases rev <;> simp [lexLe, keyR]

theorem keyR_total (htotal : ∀ a b, numLe a b = true ∨ numLe b a = true) (k : OrderKey) (u v : AVal α) :
    keyR numLe k u v = true ∨ keyR numLe k v u = true := by
  simp only [keyR]
  split
  · exact avalLe_total numLe htotal v u
  · exact avalLe_total numLe htotal u v

theorem keyR_trans (htrans : ∀ a b c, numLe a b = true → numLe b c = true → numLe a c = true) (k : OrderKey)
    (u v w : AVal α) : keyR numLe k u v = true → keyR numLe k v w = true → keyR numLe k u w = true := by
  simp only [keyR]
  split
  · exact fun h1 h2 => avalLe_trans numLe htrans w v u h2 h1
  · exact avalLe_trans numLe htrans u v w

theorem lexLe_total : ∀ (ks : List OrderKey) (x y : Fit α), lexLe numLe ks x y = true ∨ lexLe numLe ks y x = true
  | [], _, _ => Or.inl rfl
  | k :: ks, x, y => by
    rw [lexLe_cons, lexLe_cons]
    exact lexStep_total (le := fun x y => keyR numLe k (x.attr k.attr) (y.attr k.attr)) (lexLe_total ks) x y

theorem lexLe_trans (htotal : ∀ a b, numLe a b = true ∨ numLe b a = true)
    (htrans : ∀ a b c, numLe a b = true → numLe b c = true → numLe a c = true) :
    ∀ (ks : List OrderKey) (x y z : Fit α),
      lexLe numLe ks x y = true → lexLe numLe ks y z = true → lexLe numLe ks x z = true
  | [], _, _, _ => fun _ _ => rfl
  | k :: ks, x, y, z => by
    rw [lexLe_cons, lexLe_cons, lexLe_cons]
    exact lexStep_trans (le := fun x y => keyR numLe k (x.attr k.attr) (y.attr k.attr))
      (fun a b => keyR_total numLe htotal k _ _) (fun a b c => keyR_trans numLe htrans k _ _ _)
      (lexLe_trans htotal htrans ks) x y z

end lex

/-! ### slicing -/

theorem normIdx_le (len : Nat) (i : Int) : normIdx len i ≤ len := by
  simp only [normIdx]
  split <;> omega

theorem getD_map_of {β γ} {P : γ → Prop} {g : β → γ} {d : γ} (hd : P d) (hg : ∀ i, P (g i)) :
    ∀ o : Option β, P ((o.map g).getD d)
  | none => hd
  | some i => hg i

theorem getD_normIdx_le (len : Nat) (o : Option Int) : (o.map (normIdx len)).getD len ≤ len :=
  getD_map_of (P := (· ≤ len)) (Nat.le_refl _) (normIdx_le len) o

theorem window_slice {β} (w : Window) (full : List β) (s e : Nat) (he : e ≤ (w.apply full).length) :
    (Window.apply { off := w.off + s, lim := some (e - s) } full) = ((w.apply full).drop s).take (e - s) := by
  cases w with
  | mk off lim =>
    cases lim with
    | none => simp [Window.apply, List.drop_drop]
    | some n =>
      simp only [Window.apply, List.length_take, List.length_drop] at he ⊢
      rw [List.drop_take, List.take_take, List.drop_drop]
      congr 1
      omega

theorem sliceWindow_repaired {β} (cfg : Cfg) (h : cfg.sliceWindow = true) (w : Window) (full : List β)
    (a b : Option Int) :
    (sliceWindow cfg w (w.apply full).length a b).apply full = pySlice (w.apply full) a b := by
  simp only [sliceWindow, h, if_true, pySlice]
  exact window_slice w full _ _ (getD_normIdx_le _ b)

theorem sliceChain_repaired {β} (cfg : Cfg) (h : cfg.sliceWindow = true) (full : List β) :
    ∀ (slices : List (Option Int × Option Int)) (w : Window),
      (sliceChain cfg full w slices).apply full
        = slices.foldl (fun cur ab => pySlice cur ab.1 ab.2) (w.apply full)
  | [], w => by simp [sliceChain]
  | (a, b) :: rest, w => by
    simp only [sliceChain, List.foldl_cons]
    rw [sliceChain_repaired cfg h full rest, sliceWindow_repaired cfg h]

/-! ### stepped slices -/

theorem takeWhile_all {β} (p : β → Bool) (l : List β) (h : ∀ x ∈ l, p x = true) : l.takeWhile p = l := by
  simpa using List.takeWhile_append_of_pos (l₂ := []) h

theorem mem_takeWhile_map_range {g : Nat → Int} {p : Int → Bool} {n : Nat} {x : Int}
    (h : x ∈ ((List.range n).map g).takeWhile p) : p x = true ∧ ∃ k, k < n ∧ g k = x :=
  ⟨List.all_eq_true.mp List.all_takeWhile x h, by simpa using (List.takeWhile_sublist p).subset h⟩

theorem indices_up_lt (len : Nat) (g : Nat → Int) (e : Int) (he : e ≤ len) :
    ∀ i ∈ (((List.range len).map g).takeWhile (fun i => decide (i < e))).map Int.toNat, i < len := by
  intro i hi
  obtain ⟨x, hx, rfl⟩ := List.mem_map.mp hi
  obtain ⟨hlt, k, hk, -⟩ := mem_takeWhile_map_range hx
  simp only [decide_eq_true_eq] at hlt
  omega

theorem indices_down_lt (len : Nat) (s e step : Int) (hs : s ≤ len - 1) (he : -1 ≤ e) (hst : step ≤ 0) :
    ∀ i ∈ (((List.range len).map (fun (k : Nat) => s + Int.ofNat k * step)).takeWhile (fun i => decide (i > e))).map
      Int.toNat, i < len := by
  intro i hi
  obtain ⟨x, hx, rfl⟩ := List.mem_map.mp hi
  obtain ⟨hgt, k, -, rfl⟩ := mem_takeWhile_map_range hx
  have hk : Int.ofNat k * step ≤ 0 := Int.mul_nonpos_of_nonneg_of_nonpos (Int.natCast_nonneg k) hst
  simp only [decide_eq_true_eq] at hgt
  omega

theorem takeWhile_lt_range' (m : Nat) : ∀ (n off : Nat),
    (List.range' off n).takeWhile (fun k => decide (k < m)) = List.range' off (min n (m - off))
  | 0, off => by simp
  | n + 1, off => by
    rw [List.range'_succ]
    by_cases h : off < m
    · have e : m - off = m - (off + 1) + 1 := by omega
      rw [List.takeWhile_cons_of_pos (by simpa using h), takeWhile_lt_range' m n (off + 1), e, Nat.add_min_add_right,
        List.range'_succ]
    · rw [List.takeWhile_cons_of_neg (by simpa using h), Nat.sub_eq_zero_of_le (Nat.le_of_not_lt h), Nat.min_zero]
      rfl

theorem filterMap_range'_getElem? {β} (l : List β) : ∀ (m s : Nat),
    (List.range' s m).filterMap (fun i => l[i]?) = (l.drop s).take m
  | 0, s => by simp
  | m + 1, s => by
    rw [List.range'_succ, List.filterMap_cons]
    by_cases h : s < l.length
    · rw [List.getElem?_eq_getElem h, filterMap_range'_getElem? l m (s + 1), List.drop_eq_getElem_cons h,
        List.take_succ_cons]
    · have hn : l.length ≤ s := Nat.le_of_not_lt h
      rw [List.getElem?_eq_none hn, filterMap_range'_getElem? l m (s + 1), List.drop_eq_nil_of_le hn,
        List.drop_eq_nil_of_le (Nat.le_succ_of_le hn)]
      simp

/-- the bound normalisation of `sliceIndices` for a positive step is `normIdx` -/
theorem normPos_eq (len : Nat) (i : Int) :
    (if i < 0 then max (i + (len : Int)) 0 else min i (len : Int)) = ((normIdx len i : Nat) : Int) := by
  unfold normIdx
  split
  · rw [Int.toNat_eq_max, Int.add_comm]
  · rename_i h
    rw [Lean.Omega.Int.ofNat_min, Int.toNat_of_nonneg (Int.not_lt.mp h)]

theorem getD_map_normPos (len : Nat) (o : Option Int) {d : Int} {d' : Nat} (hd : d = d') :
    (o.map (fun i : Int => if i < 0 then max (i + (len : Int)) 0 else min i (len : Int))).getD d
      = (((o.map (normIdx len)).getD d' : Nat) : Int) := by
  cases o with
  | none => exact hd
  | some i => exact normPos_eq len i

theorem indices_step_one (len s e : Nat) (he : e ≤ len) :
    (((List.range len).map (fun (k : Nat) => (s : Int) + Int.ofNat k * 1)).takeWhile
      (fun i => decide (i < (e : Int)))).map Int.toNat = List.range' s (e - s) := by
  have hp : ((fun i : Int => decide (i < (e : Int))) ∘ fun (k : Nat) => (s : Int) + Int.ofNat k * 1)
      = fun k => decide (k < e - s) :=
    funext fun k => decide_eq_decide.mpr (by
      show (s : Int) + Int.ofNat k * 1 < (e : Int) ↔ k < e - s
      have : Int.ofNat k = (k : Int) := rfl
      omega)
  rw [List.takeWhile_map, hp, List.range_eq_range', takeWhile_lt_range', Nat.sub_zero, Nat.min_eq_right (by omega),
    List.map_map, ← List.range_eq_range', List.range'_eq_map_range]
  exact List.map_congr_left fun k _ => by
    show Int.toNat ((s : Int) + Int.ofNat k * 1) = s + k
    have : Int.ofNat k = (k : Int) := rfl
    omega

theorem sliceIndices_rev (len : Nat) : sliceIndices len none none (-1) = (List.range len).reverse := by
  unfold sliceIndices
  simp only [show ¬ ((-1 : Int) > 0) by decide, if_false, Option.map_none, Option.getD_none]
  rw [takeWhile_all, List.map_map, List.range_eq_range', List.reverse_range', ← List.range_eq_range']
  · exact List.map_congr_left fun k hk => by
      have := List.mem_range.mp hk
      have : Int.ofNat k = (k : Int) := rfl
      simp only [Function.comp]
      omega
  · intro x hx
    obtain ⟨k, hk, rfl⟩ := List.mem_map.mp hx
    have := List.mem_range.mp hk
    have : Int.ofNat k = (k : Int) := rfl
    simp only [decide_eq_true_eq]
    omega

/-! ### concrete witnesses (numbers := Nat) -/

namespace Witness

def natOps : NumOps Nat :=
  ⟨fun op a b => match op with
    | .eq => a == b | .lt => decide (a < b) | .le => decide (a ≤ b) | .gt => decide (a > b) | .ge => decide (a ≥ b)⟩

/-- an instance `Collection(g = Gaussian(centre, sigma), tag = "t")` -/
def inst (centre sigma : Nat) : Obj Nat :=
  .node "Collection" [("g", .node "Gaussian" [("centre", .num centre), ("sigma", .num sigma), ("note", .nul)]),
                      ("tag", .str "t")]

def fit (id : String) (centre sigma : Nat) (complete : Bool) : Fit Nat :=
  { id := id, inst := inst centre sigma,
    attrs := [("id", .str id), ("is_complete", .bool complete), ("unique_tag", if complete then .str "done" else .null)],
    info := [("k", id)] }

def db : List (Fit Nat) := [fit "a" 1 2 true, fit "b" 3 2 false, fit "c" 1 5 true, fit "d" 4 4 false, fit "e" 0 2 true]

/-- `~(g.centre == 1) & (g.sigma == 2)` -/
def notMerge : Pred Nat :=
  .and (.not (.path "g" ["centre"] (.num .eq 1))) (.path "g" ["sigma"] (.num .eq 2))

/-- `((g.centre < 3) | (g.sigma >= 5) | ~is_complete) & ~((g == Gaussian) & (g.note == None) & (info[k] == "d"))` -/
def mixed : Pred Nat :=
  .and (.or (.or (.path "g" ["centre"] (.num .lt 3)) (.path "g" ["sigma"] (.num .ge 5))) (.not (.fitc (.boolAttr "is_complete"))))
       (.not (.and (.and (.path "g" [] (.cls "Gaussian")) (.path "g" ["note"] .nul)) (.fitc (.info "k" "d"))))

/-- object table holding the instances of fits "a" (root row 1) and "b" (root row 2) -/
def table : List (Row Nat) := [
  ⟨1, none, "", .inst "Collection"⟩, ⟨2, none, "", .inst "Collection"⟩,
  ⟨3, some 1, "g", .inst "Gaussian"⟩, ⟨4, some 1, "tag", .str "t"⟩,
  ⟨5, some 2, "g", .inst "Gaussian"⟩, ⟨6, some 2, "tag", .str "t"⟩,
  ⟨7, some 3, "centre", .num 1⟩, ⟨8, some 3, "sigma", .num 2⟩, ⟨9, some 3, "note", .nul⟩,
  ⟨10, some 5, "centre", .num 3⟩, ⟨11, some 5, "sigma", .num 2⟩, ⟨12, some 5, "note", .nul⟩]

end Witness

end AF.Query
