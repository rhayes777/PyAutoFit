import AFModel.Comp
import AFProofs.Lemmas.Sort

/-! Lemmas about the `Comp` model: the parameter ids, the sorts by id and by name, look-ups, the place advertised
for a parameter. Core Lean only. -/

namespace AF

theorem mem_insertUniq {a x : Nat} : ∀ {l : List Nat}, x ∈ insertUniq a l ↔ x = a ∨ x ∈ l
  | [] => by simp [insertUniq]
  | b :: bs => by
    unfold insertUniq
    split
    · exact List.mem_cons
    · split
      · rename_i h; subst h; simp
      · rw [List.mem_cons, mem_insertUniq, List.mem_cons]; exact or_left_comm

theorem sorted_insertUniq {a : Nat} : ∀ {l : List Nat}, l.Pairwise (· < ·) → (insertUniq a l).Pairwise (· < ·)
  | [], _ => by simp [insertUniq]
  | b :: bs, h => by
    unfold insertUniq
    have hb := List.pairwise_cons.mp h
    split
    · rename_i hab
      refine List.pairwise_cons.mpr ⟨?_, h⟩
      intro x hx
      rcases List.mem_cons.mp hx with rfl | hx
      · exact hab
      · exact Nat.lt_trans hab (hb.1 x hx)
    · split
      · exact h
      · rename_i h1 h2
        refine List.pairwise_cons.mpr ⟨?_, sorted_insertUniq hb.2⟩
        intro x hx
        rcases mem_insertUniq.mp hx with rfl | hx
        · omega
        · exact hb.1 x hx

theorem mem_sortDedup {x : Nat} : ∀ {l : List Nat}, x ∈ sortDedup l ↔ x ∈ l
  | [] => by simp [sortDedup]
  | a :: l => by
    have ih := mem_sortDedup (x := x) (l := l)
    simp only [sortDedup, List.foldr_cons] at ih ⊢
    rw [mem_insertUniq, ih]; simp

theorem sorted_sortDedup : ∀ (l : List Nat), (sortDedup l).Pairwise (· < ·)
  | [] => by simp [sortDedup]
  | a :: l => by
    simp only [sortDedup, List.foldr_cons]
    exact sorted_insertUniq (sorted_sortDedup l)

theorem nodup_of_sorted {l : List Nat} (h : l.Pairwise (· < ·)) : l.Nodup :=
  h.imp (fun hab => Nat.ne_of_lt hab)

theorem mem_uniqueIds {V : Type} {t : Node V} {id : Nat} :
    id ∈ uniqueIds t ↔ id ∈ (walk t).map (·.2) :=
  mem_sortDedup

theorem nodup_uniqueIds {V : Type} (t : Node V) : (uniqueIds t).Nodup :=
  nodup_of_sorted (sorted_sortDedup _)

theorem lookup_zip_get {V} : ∀ (ks : List Nat) (vs : List V), ks.Nodup → ks.length = vs.length →
    ∀ (i : Nat) (hi : i < ks.length) (hv : i < vs.length),
      lookupArg (ks.zip vs) ks[i] = some vs[i] :=
  fun ks vs hnd _ i hi hv => by
    -- the first entry of the zip whose key is `ks[i]` is the `i`-th: no earlier key equals it
    have hf : (ks.zip vs).find? (·.1 == ks[i]) = some (ks[i], vs[i]) :=
      List.find?_eq_some_iff_getElem.mpr ⟨beq_self_eq_true _, i, by rw [List.length_zip]; omega, List.getElem_zip,
        fun j hj => by
          have := List.pairwise_iff_getElem.mp hnd j i (by omega) hi hj
          rw [List.getElem_zip]; simpa using this⟩
    rw [lookupArg, hf]; rfl

theorem sortById_eq {α} (l : List (α × Nat)) : sortById l = sortBy (fun a b => a.2 ≤ b.2) l :=
  eq_sortBy _ (ins := sortById.insertByIdFront) (fun _ => rfl) (fun _ _ _ => rfl) rfl (fun _ _ => rfl) l

theorem sortByName_eq {α} (le : String → String → Bool) (l : List (String × α)) :
    sortByName le l = sortBy (fun a b => le a.1 b.1 = true) l :=
  eq_sortBy _ (ins := insertByName le) (fun _ => rfl) (fun _ _ _ => rfl) rfl (fun _ _ => rfl) l

theorem perm_sortById {α} (l : List (α × Nat)) : (sortById l).Perm l :=
  sortById_eq l ▸ perm_sortBy (fun a b => a.2 ≤ b.2) l

theorem sorted_sortById {α} (l : List (α × Nat)) : (sortById l).Pairwise (fun a b => a.2 ≤ b.2) :=
  sortById_eq l ▸ sorted_sortBy (fun a b => a.2 ≤ b.2) (fun a b => Nat.le_total a.2 b.2) (fun _ _ _ => Nat.le_trans) l

theorem sortById_of_sorted {α} (l : List (α × Nat)) (h : l.Pairwise (fun a b => a.2 ≤ b.2)) :
    sortById l = l :=
  (sortById_eq l).trans (sortBy_of_sorted _ l h)

theorem perm_sortByName {α} (le) (l : List (String × α)) : (sortByName le l).Perm l :=
  sortByName_eq le l ▸ perm_sortBy (fun a b => le a.1 b.1 = true) l

theorem sorted_sortByName {α} (le : String → String → Bool)
    (htot : ∀ a b, le a b = true ∨ le b a = true)
    (htr : ∀ a b c, le a b = true → le b c = true → le a c = true) (l : List (String × α)) :
    (sortByName le l).Pairwise (fun a b => le a.1 b.1 = true) :=
  sortByName_eq le l ▸ sorted_sortBy (fun a b => le a.1 b.1 = true) (fun a b => htot a.1 b.1) (fun a b c => htr a.1 b.1 c.1) l

theorem sortByName_of_sorted {α} (le : String → String → Bool) (l : List (String × α))
    (h : l.Pairwise (fun a b => le a.1 b.1 = true)) : sortByName le l = l :=
  (sortByName_eq le l).trans (sortBy_of_sorted _ l h)

/-- the path advertised for a parameter by `unique_prior_paths` is one of its places -/
theorem lastPlace_is_place (w : List (Path × Nat)) (id : Nat) (h : id ∈ w.map (·.2)) :
    ∃ p, lastPlace w id = some p ∧ (p, id) ∈ w := by
  obtain ⟨⟨q, j⟩, hq, rfl⟩ := List.mem_map.mp h
  obtain ⟨⟨p, i⟩, hf, hy, hm⟩ := find?_of_mem (p := (·.2 == j)) (List.mem_reverse.mpr hq) (beq_self_eq_true j)
  cases beq_iff_eq.mp hy
  exact ⟨p, by rw [lastPlace, hf]; rfl, List.mem_reverse.mp hm⟩

theorem lastPlace_of_counted {V} (t : Node V) (id : Nat) (hid : id ∈ uniqueIds t) :
    ∃ p, lastPlace (pathPriors t) id = some p ∧ (p, id) ∈ walk t := by
  have hpp : id ∈ (pathPriors t).map (·.2) :=
    ((perm_sortById (walk t)).map _).mem_iff.mpr (mem_sortDedup.mp hid)
  obtain ⟨p, hp, hm⟩ := lastPlace_is_place (pathPriors t) id hpp
  exact ⟨p, hp, (perm_sortById (walk t)).mem_iff.mp hm⟩

/-- so the `filterMap` of `unique_prior_paths` drops nothing: one path per parameter -/
theorem uniquePaths_eq_map {V} (t : Node V) :
    uniquePaths t = (uniqueIds t).map fun id => (lastPlace (pathPriors t) id).getD [] :=
  filterMap_eq_map_of_some fun id hid => by
    obtain ⟨p, hp, _⟩ := lastPlace_of_counted t id hid
    rw [hp, Option.getD_some]

theorem lookupAttr_of_not_mem {α} : ∀ (l : List (String × α)) (k : String),
    k ∉ l.map (·.1) → lookupAttr l k = none
  | [], _, _ => by simp [lookupAttr]
  | (k', v) :: rest, k, h => by
    simp only [List.map_cons, List.mem_cons, not_or] at h
    simp only [lookupAttr]
    rw [if_neg (fun e => h.1 e.symm)]
    exact lookupAttr_of_not_mem rest k h.2

theorem lookupAttr_of_mem {α} : ∀ {l : List (String × α)} {k : String} {v : α},
    (l.map (·.1)).Nodup → (k, v) ∈ l → lookupAttr l k = some v
  | (k', v') :: rest, k, v, hnd, hm => by
    simp only [List.map_cons, List.nodup_cons] at hnd
    rw [lookupAttr]
    rcases List.mem_cons.mp hm with h | h
    · cases h; exact if_pos rfl
    · rw [if_neg fun (e : k' = k) => hnd.1 (e ▸ List.mem_map_of_mem (f := (·.1)) h)]
      exact lookupAttr_of_mem hnd.2 h

theorem lookupAttr_perm {α} {l₁ l₂ : List (String × α)} (hp : l₁.Perm l₂)
    (hnd : (l₁.map (·.1)).Nodup) (k : String) : lookupAttr l₁ k = lookupAttr l₂ k := by
  have hnd₂ := (hp.map (·.1)).nodup_iff.mp hnd
  by_cases hk : k ∈ l₁.map (·.1)
  · obtain ⟨⟨k', v⟩, hm, rfl⟩ := List.mem_map.mp hk
    rw [lookupAttr_of_mem hnd hm, lookupAttr_of_mem hnd₂ (hp.mem_iff.mp hm)]
  · rw [lookupAttr_of_not_mem _ _ hk,
      lookupAttr_of_not_mem _ _ fun h => hk ((hp.map (·.1)).mem_iff.mpr h)]

theorem lookupAttr_sortByName {α} (le) (l : List (String × α)) (hnd : (l.map (·.1)).Nodup) (k : String) :
    lookupAttr (sortByName le l) k = lookupAttr l k := by
  have hp := perm_sortByName le l
  have hnd' : ((sortByName le l).map (·.1)).Nodup := (hp.map (·.1)).nodup_iff.mpr hnd
  exact lookupAttr_perm hp hnd' k

theorem lookupAttr_append_of_some {α} : ∀ (l m : List (String × α)) (a : String) (v : α),
    lookupAttr l a = some v → lookupAttr (l ++ m) a = some v
  | [], _, _, _, h => nomatch h
  | (k, w) :: rest, m, a, v, h => by
    rw [lookupAttr] at h
    rw [List.cons_append, lookupAttr]
    split
    · rwa [if_pos ‹_›] at h
    · exact lookupAttr_append_of_some rest m a v (by rwa [if_neg ‹_›] at h)

end AF
