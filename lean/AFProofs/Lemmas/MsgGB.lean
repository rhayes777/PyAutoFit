import AFModel.MsgGB
import AFProofs.Lemmas.Msg
import Mathlib.Tactic.LinearCombination

/-! Gamma and Beta messages (`AFModel/MsgGB.lean`): the exponential-family form of the density; a Newton step of
the numerical inversions rests exactly at a solution. -/

namespace AF.Msg

section field
variable {K : Type} [Field K]

theorem natural_gamma (a : Base K) (h : a.fam = .gamma) : a.natural = (a.p1 - 1, -a.p2) := by
  simp [Base.natural, calcNatural, h]

theorem natural_beta (a : Base K) (h : a.fam = .beta) : a.natural = (a.p1 - 1, a.p2 - 1) := by
  simp [Base.natural, calcNatural, h]

/-- the density is `log_base + η·t(x) − A(η)` with `A` a function of the natural parameters only -/
theorem logpdfRaw_eq (fn : Fn K) (sp : Sp K) (a : Base K) (x : K) :
    a.logpdfRaw fn sp x =
      logBase fn a.fam + (a.natural.1 * (toCanonical fn sp a.fam x).1 + a.natural.2 * (toCanonical fn sp a.fam x).2)
        - logPartitionGB fn sp a.fam a.natural := rfl

theorem logpdfRaw_normal (fn : Fn K) (sp : Sp K) (a : Base K) (h : a.fam = .normal ∨ a.fam = .naturalNormal) (x : K) :
    a.logpdfRaw fn sp x = a.logpdf fn x := by
  rw [logpdfRaw_eq]
  rcases h with h | h <;> rw [h] <;> rfl

/-! ## a shape parameter `α` enters the natural parameters as `α − 1` -/

theorem shape_mul (x y : K) : x - 1 + (y - 1) + 1 = x + y - 1 := by ring

theorem shape_div (x y : K) : x - 1 - (y - 1) + 1 = x - y + 1 := by rw [sub_sub_sub_cancel_right]

theorem psilogStep_eq_self_iff (fn : Fn K) (sp : Sp K) (c x : K) (hg : gradPsilog sp x ≠ 0) :
    psilogStep fn sp c x = x ↔ psilog fn sp x = c := by
  unfold psilogStep
  rw [sub_eq_self, div_eq_zero_iff, or_iff_left hg, sub_eq_zero]

theorem newtonPsilog_of_solution (fn : Fn K) (sp : Sp K) (c x : K) (h : psilog fn sp x = c) (n : Nat) :
    newtonPsilog fn sp c n x = x := by
  induction n with
  | zero => rfl
  | succ n ih =>
    have hs : psilogStep fn sp c x = x := by unfold psilogStep; rw [h]; simp
    simp only [newtonPsilog, hs, ih]

/-- the determinant of the Jacobian of the Beta moment equations -/
def betaDet (sp : Sp K) (ab : K × K) : K :=
  (betaJac sp ab).1 * (betaJac sp ab).2.2 - (betaJac sp ab).2.1 * (betaJac sp ab).2.1

theorem betaStep_eq_self_iff (sp : Sp K) (l1 l2 : K) (ab : K × K) (hd : betaDet sp ab ≠ 0) :
    betaStep sp l1 l2 ab = ab ↔ betaResidual sp l1 l2 ab = (0, 0) := by
  unfold betaDet at hd
  unfold betaStep
  generalize betaResidual sp l1 l2 ab = f at *
  generalize betaJac sp ab = j at *
  obtain ⟨f1, f2⟩ := f
  obtain ⟨j11, j12, j22⟩ := j
  obtain ⟨a, b⟩ := ab
  simp only [Prod.mk.injEq] at *
  constructor
  · -- both Newton increments vanish, so do their numerators; Cramer's rule backwards gives `f * det = 0`
    rintro ⟨h1, h2⟩
    have n1 := (div_eq_zero_iff.1 (add_eq_left.1 h1)).resolve_right hd
    have n2 := (div_eq_zero_iff.1 (add_eq_left.1 h2)).resolve_right hd
    have hf1 : f1 * (j11 * j22 - j12 * j12) = 0 := by linear_combination (-j11) * n1 - j12 * n2
    have hf2 : f2 * (j11 * j22 - j12 * j12) = 0 := by linear_combination (-j12) * n1 - j22 * n2
    exact ⟨(mul_eq_zero.1 hf1).resolve_right hd, (mul_eq_zero.1 hf2).resolve_right hd⟩
  · rintro ⟨rfl, rfl⟩
    simp

theorem betaNewton_of_solution (sp : Sp K) (l1 l2 : K) (ab : K × K) (h : betaResidual sp l1 l2 ab = (0, 0)) (n : Nat) :
    betaNewton sp l1 l2 n ab = ab := by
  induction n with
  | zero => rfl
  | succ n ih =>
    have hs : betaStep sp l1 l2 ab = ab := by
      unfold betaStep; rw [h]; simp
    simp only [betaNewton, hs, ih]

end field

section order
variable {K : Type} [Field K] [LinearOrder K] [IsStrictOrderedRing K]

theorem shape_div_pos (x y : K) : 0 < x - y + 1 ↔ y < x + 1 := by
  rw [sub_add_eq_add_sub]; exact sub_pos

theorem shape_pow_pos (k x : K) : 0 < k * (x - 1) + 1 ↔ k * (1 - x) < 1 := by
  rw [← neg_sub 1 x, mul_neg, neg_add_eq_sub]; exact sub_pos

end order

section vocabulary
variable {K : Type} [Field K] [LinearOrder K]

/-- what makes `from_sufficient_statistics(m1, m2)` exact: the numerical inversion has converged (its result
solves the equations it iterates on), the logarithm is a homomorphism at the one quotient the Gamma family forms,
the moments of the normal family have positive variance -/
def Converged (fn : Fn K) (sp : Sp K) (fam : Family) (m1 m2 : K) : Prop :=
  match fam with
  | .gamma =>
    let alpha := invpsilog fn sp (m1 - fn.log m2)
    psilog fn sp alpha = m1 - fn.log m2 ∧ alpha ≠ 0 ∧ m2 ≠ 0 ∧ fn.log (alpha / m2) = fn.log alpha - fn.log m2
  | .beta => betaResidual sp m1 m2 (invBetaSuffstats fn sp m1 m2) = (0, 0)
  | .normal | .naturalNormal => 0 < m2 - m1 * m1
  | .fixed => False

end vocabulary

/-- stand-ins for the special functions over `ℚ` (non-vacuity examples only): with `ψ(x) = 2x`, `ψ'(x) = 1 + 1/x`
and `log = id` the Gamma equation `ψ(x) − log x = c` is linear and Newton's method is exact after one step -/
def spQ : Sp ℚ :=
  { lgamma := id, digamma := fun x => 2 * x, trigamma := fun x => 1 + 1 / x, log1p := id, rpow := fun x _ => x,
    nanToNum := id, nanToNum0 := id, abs := fun x => if x < 0 then -x else x, cA := 1, cB := 1, cG := 1 }

/-- with `ψ(x) = x`, `ψ'(x) = 1` the two Beta equations are linear with Jacobian `[[0, -1], [-1, 0]]` -/
def spQ2 : Sp ℚ := { spQ with digamma := id, trigamma := fun _ => 1 }

/-- the special functions over `ℚ` used with `spQ` (`log = id`, `exp x = x²`) -/
def fnQ0 : Fn ℚ :=
  { sqrt := id, log := id, exp := fun x => x * x, log10 := id, exp10 := id, ndtr := id, ndtri := id,
    erfinv := id, normPdf := id, negInf := -1, posInf := 1, halfLog2Pi := 1, isFinite := fun _ => true,
    le := fun a b => decide (a ≤ b), max := fun a b => if a ≤ b then b else a }

end AF.Msg
