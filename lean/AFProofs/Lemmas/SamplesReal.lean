import Mathlib.Analysis.SpecialFunctions.Exp
import AFProofs.Lemmas.SamplesMore

/-! The conversions of C05 over exact (real) arithmetic: the weight normalisations sum to one. -/

namespace AF.Samples

/-- the arithmetic of the conversions over the reals (`exp` is the real exponential) -/
noncomputable def realSOps : SOps ℝ where
  add := (· + ·)
  sub := (· - ·)
  negHalf := fun x => -(1 / 2) * x
  exp := Real.exp
  zero := 0
  one := 1
  lt := fun a b => decide (a < b)
  le := fun a b => decide (a ≤ b)

theorem weightSum_real (ss : List (Sample ℝ)) : weightSum realSOps ss = (ss.map (·.w)).sum := by
  rw [weightSum_eq_foldl, List.sum_eq_foldl]
  rfl

theorem sum_exp_sub (l : List ℝ) (z : ℝ) :
    (l.map (fun x => Real.exp (x - z))).sum = (l.map Real.exp).sum / Real.exp z := by
  simp only [Real.exp_sub, div_eq_mul_inv, List.sum_map_mul_right]

end AF.Samples
