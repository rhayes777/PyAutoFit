import AFModel.SamplesStats
import AFProofs.Lemmas.SamplesIO
import AFProofs.Lemmas.Sort

/-! Lemmas about `AF.SamplesStats`: its two sorts are the insertion sort of `Lemmas/Sort.lean`; columns
follow the parameters when the parameter order changes. -/

namespace AF.SamplesStats
open AF.SamplesIO

/-! ## the sorts -/

theorem sortVW_eq (l : List (Rat × Rat)) : sortVW l = sortBy (fun a b => a.1 ≤ b.1) l :=
  eq_sortBy _ (ins := insertVW) (fun _ => rfl) (fun _ _ _ => rfl) rfl (fun _ _ => rfl) l

theorem sortR_eq (l : List Rat) : sortR l = sortBy (fun a b => a ≤ b) l :=
  eq_sortBy _ (ins := insertR) (fun _ => rfl) (fun _ _ _ => rfl) rfl (fun _ _ => rfl) l

/-! ## reindexing -/

theorem paramList_reorder {V} [Inhabited V] (cfg : Cfg) (sh : Shape) (idx : List Nat)
    (hidx : ∀ i ∈ idx, i < sh.length) (s : Sample V) (row : List V) (h : paramList cfg sh s = some row) :
    paramList cfg (reorder idx sh) s = some (permuteRow idx row) := by
  unfold paramList reorder permuteRow
  rw [mapOpt_map]
  exact mapOpt_eq_map _ _ idx fun i hi => mapOpt_getD _ default default sh row h i (hidx i hi)

theorem attributed_permuteRow {α} [Inhabited α] (stored : List α) (idx : List Nat)
    (hidx : ∀ i ∈ idx, i < stored.length) :
    (∀ k (hk : k < idx.length), (permuteRow idx stored)[k]? = stored[idx[k]]?) ∧
      ∀ k (hk : k < idx.length), idx[k] = k → attributed stored k = (permuteRow idx stored)[k]? := by
  have h1 : ∀ k (hk : k < idx.length), (permuteRow idx stored)[k]? = stored[idx[k]]? := fun k hk => by
    simp [permuteRow, hk, List.getD, hidx _ (List.getElem_mem hk)]
  exact ⟨h1, fun k hk hfix => by rw [h1 k hk, hfix]; rfl⟩

theorem colAt_permute (idx : List Nat) (rows : List (List Rat)) (k : Nat) (hk : k < idx.length) :
    colAt k (rows.map (permuteRow idx)) = colAt (idx[k]) rows := by
  unfold colAt permuteRow
  rw [List.map_map]
  apply List.map_congr_left
  intro r _
  simp [List.getD, hk]
  rfl

theorem perColumn_permute {R} (stat : List Rat → Option R) (n : Nat) (idx : List Nat)
    (hidx : ∀ i ∈ idx, i < n) (rows : List (List Rat)) :
    perColumn idx.length stat (rows.map (permuteRow idx)) = permuteRow idx (perColumn n stat rows) := by
  unfold perColumn
  apply List.ext_getElem
  · simp [permuteRow]
  · intro k h1 h2
    have hk : k < idx.length := by simpa using h1
    have hin : idx[k] < n := hidx _ (List.getElem_mem hk)
    simp only [List.getElem_map, List.getElem_range, permuteRow]
    rw [colAt_permute idx rows k hk]
    simp [List.getD, hin]

/-! ## best and most probable sample -/

theorem argmaxFirst_isSome {V} (gt : V → V → Bool) (l : List V) (h : l ≠ []) :
    (argmaxFirst gt l).isSome := by
  cases l with
  | nil => exact absurd rfl h
  | cons _ _ => rfl

end AF.SamplesStats
