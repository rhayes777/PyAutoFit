import AFModel.Build
import AFProofs.Lemmas.Comp

/-! Lemmas about `mkModel` and `mkSub` (AFModel/Build.lean): attribute look-ups through the loops of
`Model.__init__`, the tuple priors `make_tuple_prior` creates, and that a class composed without keywords
numbers its priors consecutively in the order of the walk (`Consec`). -/

namespace AF

variable {V : Type}

/-! The closing keyword loop changes an existing attribute in one way only: `Model.__setattr__` may file
a further member inside a tuple prior. So what holds of an attribute's value, and survives that, holds
after the loop. -/

section
variable (P : Node V → Prop) (hP : ∀ ms e, P (.tuple ms) → P (.tuple (ms ++ e))) (a : String)
include hP

theorem appendToTuple_keeps (p key : String) (x : Node V) : ∀ (attrs : List (String × Node V)),
    (∃ v, lookupAttr attrs a = some v ∧ P v) →
    ∃ v, lookupAttr (appendToTuple p key x attrs) a = some v ∧ P v
  | [], h => h
  | (k, w) :: rest, ⟨v, h, hv⟩ => by
    rw [lookupAttr] at h
    simp only [appendToTuple]
    by_cases hk : k = a
    · rw [if_pos hk] at h
      cases h
      split
      · split
        · exact ⟨_, by rw [lookupAttr, if_pos hk], hP _ _ hv⟩
        · exact ⟨_, by rw [lookupAttr, if_pos hk], hv⟩
      · exact ⟨_, by rw [lookupAttr, if_pos hk], hv⟩
    · rw [if_neg hk] at h
      split
      · exact ⟨v, by split <;> rw [lookupAttr, if_neg hk, h], hv⟩
      · rw [lookupAttr, if_neg hk]
        exact appendToTuple_keeps p key x rest ⟨v, h, hv⟩

theorem setNew_keeps (attrs : List (String × Node V)) (key : String) (x : Node V)
    (h : ∃ v, lookupAttr attrs a = some v ∧ P v) : ∃ v, lookupAttr (setNew attrs key x) a = some v ∧ P v := by
  unfold setNew
  split
  · exact appendToTuple_keeps P hP a _ _ _ _ h
  · exact h.imp fun v hv => ⟨lookupAttr_append_of_some _ _ _ _ hv.1, hv.2⟩

theorem addExtras_keeps : ∀ (kw : List (String × Ov V)) (attrs : List (String × Node V)) (n : Nat),
    (∃ v, lookupAttr attrs a = some v ∧ P v) → ∃ v, lookupAttr (addExtras kw attrs n).1 a = some v ∧ P v
  | [], _, _, h => h
  | (k, o) :: rest, attrs, n, h => by
    rw [addExtras]
    split
    · exact addExtras_keeps rest attrs n h
    · exact addExtras_keeps rest _ _ (setNew_keeps P hP a attrs k _ h)

/-- … and so does the model: after the loop `mkModel` only appends the string defaults -/
theorem mkModel_keeps (sig : ClassSig) (kw : List (String × Ov V)) (n : Nat)
    (h : ∃ v, lookupAttr (mkArgs kw sig.args n).1 a = some v ∧ P v) :
    ∃ v, (mkModel sig kw n).1.at [a] = some v ∧ P v := by
  obtain ⟨v, hv, hp⟩ := addExtras_keeps P hP a kw _ (mkArgs kw sig.args n).2 h
  exact ⟨v, by simp [mkModel, Node.at, Node.attrs, lookupAttr_append_of_some _ _ a v hv], hp⟩

end

/-- the loop over the constructor arguments gives every argument that has no string default an
attribute of its own name; an object given as keyword is held there as it is -/
theorem mkArgs_lookup (kw : List (String × Ov V)) (a : String) :
    ∀ (args : List (String × ArgD)) (n : Nat) (d : ArgD), (a, d) ∈ args → (∀ t, d ≠ .str t) →
    ∃ v, lookupAttr (mkArgs kw args n).1 a = some v ∧ ∀ x, lookupAttr kw a = some (.node x) → v = x
  | (b, e) :: rest, n, d, hm, hd => by
    cases e with
    | str t =>
      rw [mkArgs]
      exact mkArgs_lookup kw a rest n d ((List.mem_cons.mp hm).resolve_left fun h => hd t (Prod.mk.inj h).2) hd
    | _ =>
      simp only [mkArgs, lookupAttr]
      split
      · subst b
        exact ⟨_, rfl, fun x hx => by simp only [hx, convCtor]⟩
      · exact mkArgs_lookup kw a rest _ d
          ((List.mem_cons.mp hm).resolve_left fun h => ‹¬b = a› (Prod.mk.inj h).1.symm) hd

theorem instTupleAttrs_priors [Inhabited V] (ops : Ops V) (ρ : Nat → Inst V) (f : Nat → String) (g : Nat → Nat) :
    ∀ (l : List Nat), instTupleAttrs ops ρ (l.map (fun i => (f i, Node.prior (g i))))
      = l.map (fun i => (f i, ρ (g i))) := by
  intro l
  induction l with
  | nil => simp [instTupleAttrs]
  | cons i rest ih => simp [instTupleAttrs, instW, ih]

theorem walkAttrs_priors (f : Nat → String) (g : Nat → Nat) :
    ∀ (l : List Nat), walkAttrs (V := V) (l.map (fun i => (f i, Node.prior (g i))))
      = l.map (fun i => ([f i], g i)) := by
  intro l
  induction l with
  | nil => simp [walkAttrs]
  | cons i rest ih => simp [walkAttrs, walk, ih]

/-! ## prior ids of a class composed without keywords -/

theorem walkAttrs_append (a b : List (String × Node V)) : walkAttrs (a ++ b) = walkAttrs a ++ walkAttrs b := by
  induction a with
  | nil => rfl
  | cons x rest ih => simp only [List.cons_append, walkAttrs, ih, List.append_assoc]

theorem walkAttrs_strDefaults (args : List (String × ArgD)) (attrs : List (String × Node V)) :
    walkAttrs (strDefaults args attrs) = [] := by
  induction args with
  | nil => rfl
  | cons x rest ih =>
    obtain ⟨a, d⟩ := x
    simp only [strDefaults, List.filterMap_cons] at ih ⊢
    cases d with
    | str tag => by_cases h : (lookupAttr attrs a).isSome <;> simp [h, walkAttrs, walk, ih]
    | _ => exact ih

theorem walk_mkSub (c : String) (as : List (String × ArgD)) (n : Nat) :
    walk (mkSub (V := V) c as n).1 = walkAttrs (mkDefaults (V := V) as n).1 ∧
      (mkSub (V := V) c as n).2 = (mkDefaults (V := V) as n).2 := by
  rw [mkSub]
  simp only [walk, walkAttrs_append, walkAttrs_strDefaults, List.append_nil, and_self]

/-- The invariant of the construction loops: the ids met by the walk `w` are `n, n+1, …, m-1` in this order,
where `n` is the prior counter before and `m` the counter after. -/
def Consec (w : List (Path × Nat)) (n m : Nat) : Prop :=
  w.map (·.2) = List.range' n (m - n) ∧ n ≤ m

theorem Consec.cons (a : String) {x : Node V} {rest : List (String × Node V)} {n m k : Nat}
    (hx : Consec (walk x) n m) (hr : Consec (walkAttrs rest) m k) : Consec (walkAttrs ((a, x) :: rest)) n k := by
  refine ⟨?_, Nat.le_trans hx.2 hr.2⟩
  simp only [walkAttrs, List.map_append, List.map_map, Function.comp_def, hx.1, hr.1]
  obtain ⟨i, rfl⟩ := Nat.exists_eq_add_of_le hx.2
  obtain ⟨j, rfl⟩ := Nat.exists_eq_add_of_le hr.2
  rw [Nat.add_sub_cancel_left, Nat.add_sub_cancel_left, Nat.add_assoc, Nat.add_sub_cancel_left,
    List.range'_append_1]

theorem Consec.of_eq_range' {w : List (Path × Nat)} {n j : Nat} (h : w.map (·.2) = List.range' n j) :
    Consec w n (n + j) :=
  ⟨by rwa [Nat.add_sub_cancel_left], Nat.le_add_right n j⟩

theorem ids_mkTuple (a : String) (k n : Nat) :
    (walk (mkTuple (V := V) a k n)).map (·.2) = List.range' n k := by
  simp only [mkTuple, walk, walkAttrs_priors, List.map_map, Function.comp_def]
  exact List.range'_eq_map_range.symm

theorem mkDefaults_walk {V : Type} : ∀ (as : List (String × ArgD)) (n : Nat),
    (walkAttrs (mkDefaults (V := V) as n).1).map (·.2) = List.range' n ((mkDefaults (V := V) as n).2 - n)
      ∧ n ≤ (mkDefaults (V := V) as n).2 := by
  intro as n
  induction as, n using mkDefaults.induct (V := V)
    (motive1 := fun c as n => Consec (walk (mkSub (V := V) c as n).1) n (mkSub (V := V) c as n).2) with
  | case1 c as n ih => rw [(walk_mkSub c as n).1, (walk_mkSub c as n).2]; exact ih
  | case2 n => rw [mkDefaults]; exact ⟨by rw [Nat.sub_self]; rfl, Nat.le_refl n⟩
  | case3 a rest n t ih => rw [mkDefaults]; exact ih
  | case4 a rest n ih => rw [mkDefaults]; exact Consec.cons a (x := .prior n) (Consec.of_eq_range' (j := 1) rfl) ih
  | case5 a rest n k ih => rw [mkDefaults]; exact Consec.cons a (Consec.of_eq_range' (ids_mkTuple a k n)) ih
  | case6 a rest n c as x ihs ih => rw [mkDefaults]; exact Consec.cons a ihs ih
  | case7 a rest n ih => rw [mkDefaults]; exact Consec.cons a (x := .opaque "None") (Consec.of_eq_range' (j := 0) rfl) ih

theorem consec_mkSub (c : String) (as : List (String × ArgD)) (n : Nat) :
    Consec (walk (mkSub (V := V) c as n).1) n (mkSub (V := V) c as n).2 := by
  rw [(walk_mkSub c as n).1, (walk_mkSub c as n).2]
  exact mkDefaults_walk as n

theorem paths_mkSub (c : String) (as : List (String × ArgD)) (n : Nat) :
    pathPriors (mkSub (V := V) c as n).1 = walk (mkSub (V := V) c as n).1 := by
  refine sortById_of_sorted _ (List.pairwise_map.mp ?_)
  rw [(consec_mkSub c as n).1]
  exact List.Pairwise.imp Nat.le_of_lt List.pairwise_lt_range'

end AF
