import AFModel.SamplesMore
import AFProofs.Lemmas.ListFacts

/-! Lemmas for C05 (`AFModel/SamplesMore.lean`): the "keep the first best" fold `pickFirst` behind every arg-max of
the sample list, naturality of the walker-major flattening. Core Lean only. -/

namespace AF.Samples

variable {V : Type}

theorem weightSum_eq_foldl (o : SOps V) (ss : List (Sample V)) :
    weightSum o ss = (ss.map (·.w)).foldl o.add o.zero :=
  List.foldl_map.symm

theorem zipAllEq_refl {A} [DecidableEq A] : ∀ (k : List A), zipAllEq k k = true
  | [] => rfl
  | a :: k => by rw [zipAllEq, zipAllEq_refl k, decide_eq_true rfl]; rfl

/-! ## the "keep the first best" fold -/

theorem pickStep_cases {α} (better : α → α → Bool) (acc : Option α) (x : α) :
    pickStep better acc x = some x ∨ pickStep better acc x = acc := by
  cases acc with
  | none => exact .inl rfl
  | some b =>
    rw [pickStep]
    split
    · exact .inl rfl
    · exact .inr rfl

theorem pickStep_isSome {α} (better : α → α → Bool) (acc : Option α) (x : α) :
    (pickStep better acc x).isSome := by
  cases acc with
  | none => rfl
  | some b =>
    rw [pickStep]
    split <;> rfl

theorem pickStep_map {α β} (f : α → β) (better : β → β → Bool) (acc : Option α) (x : α) :
    pickStep better (acc.map f) (f x) = (pickStep (fun a b => better (f a) (f b)) acc x).map f := by
  cases acc with
  | none => rfl
  | some b =>
    simp only [Option.map_some, pickStep]
    split <;> rfl

theorem foldl_pickStep_map {α β} (f : α → β) (better : β → β → Bool) : ∀ (l : List α) (acc : Option α),
    (l.map f).foldl (pickStep better) (acc.map f)
      = (l.foldl (pickStep (fun a b => better (f a) (f b))) acc).map f
  | [], _ => rfl
  | x :: l, acc => by
    rw [List.map_cons, List.foldl_cons, pickStep_map]
    exact foldl_pickStep_map f better l _

theorem pickFirst_map {α β} (f : α → β) (better : β → β → Bool) (l : List α) :
    pickFirst better (l.map f) = (pickFirst (fun a b => better (f a) (f b)) l).map f :=
  foldl_pickStep_map f better l none

theorem foldl_pickStep_mem {α} (better : α → α → Bool) : ∀ (l : List α) (acc : Option α) (a : α),
    l.foldl (pickStep better) acc = some a → a ∈ l ∨ acc = some a
  | [], _, _, h => .inr h
  | x :: l, acc, a, h => by
    rcases foldl_pickStep_mem better l _ a h with h | h
    · exact .inl (List.mem_cons_of_mem _ h)
    · rcases pickStep_cases better acc x with hx | hx
      · exact .inl (by rw [Option.some.inj (hx.symm.trans h)]; exact List.mem_cons_self)
      · exact .inr (hx.symm.trans h)

theorem pickFirst_mem {α} (better : α → α → Bool) (l : List α) (a : α) (h : pickFirst better l = some a) :
    a ∈ l :=
  (foldl_pickStep_mem better l none a h).resolve_right (by simp)

theorem pickFirst_zipIdx {α} (better : α × Nat → α × Nat → Bool) (l : List α) (a : α × Nat)
    (h : pickFirst better l.zipIdx = some a) : l[a.2]? = some a.1 := by
  simpa using List.mem_zipIdx_iff_getElem?.1 (pickFirst_mem better _ a h)

theorem foldl_pickStep_isSome {α} (better : α → α → Bool) : ∀ (l : List α) (acc : Option α),
    acc.isSome → (l.foldl (pickStep better) acc).isSome
  | [], _, h => h
  | x :: l, acc, _ => foldl_pickStep_isSome better l _ (pickStep_isSome better acc x)

theorem pickFirst_none_iff {α} (better : α → α → Bool) (l : List α) : pickFirst better l = none ↔ l = [] := by
  cases l with
  | nil => exact ⟨fun _ => rfl, fun _ => rfl⟩
  | cons x l =>
    have := foldl_pickStep_isSome better l _ (pickStep_isSome better none x)
    simp only [pickFirst, List.foldl_cons, reduceCtorEq, iff_false]
    exact fun h => by simp [h] at this

/-! ## a first maximum is what the loop returns -/

theorem foldl_pickStep_stays {α} (better : α → α → Bool) (b : α) : ∀ (post : List α),
    (∀ s ∈ post, better b s = false) → post.foldl (pickStep better) (some b) = some b
  | [], _ => rfl
  | s :: post, h => by
    rw [List.foldl_cons, pickStep, h s List.mem_cons_self]
    exact foldl_pickStep_stays better b post (fun t ht => h t (List.mem_cons_of_mem _ ht))

theorem pickFirst_of_first_max {α} (better : α → α → Bool) (pre post : List α) (b : α)
    (hpre : ∀ s ∈ pre, better s b = true) (hpost : ∀ s ∈ post, better b s = false) :
    pickFirst better (pre ++ b :: post) = some b := by
  have hb : pickStep better (pickFirst better pre) b = some b := by
    cases hx : pickFirst better pre with
    | none => rfl
    | some x => rw [pickStep, hpre x (pickFirst_mem better pre x hx)]; rfl
  rw [pickFirst, List.foldl_append, List.foldl_cons]
  exact (congrArg (post.foldl (pickStep better)) hb).trans (foldl_pickStep_stays better b post hpost)

/-! ## what the loop returns is a first maximum -/

theorem foldl_pickStep_some {α} (better : α → α → Bool) : ∀ (l : List α) (b : α),
    l.foldl (pickStep better) (some b) = some (l.foldl (fun b x => if better b x then x else b) b)
  | [], _ => rfl
  | x :: l, b => by
    rw [List.foldl_cons, List.foldl_cons, ← foldl_pickStep_some better l, apply_ite some]
    rfl

/-- `htr`, `hnt`: `lt` is a strict weak order (no NaN among the keys) -/
theorem pickFirst_first_max {α} (lt : V → V → Bool) (key : α → V)
    (htr : ∀ a b c, lt a b = true → lt b c = true → lt a c = true)
    (hnt : ∀ a b c, lt a c = true → lt a b = true ∨ lt b c = true)
    (l : List α) (b : α) (h : pickFirst (fun a b => lt (key a) (key b)) l = some b) :
    ∃ pre post, l = pre ++ b :: post ∧ (∀ s ∈ pre, lt (key s) (key b) = true) ∧
      (∀ s ∈ post, lt (key b) (key s) = false) := by
  cases l with
  | nil => cases h
  | cons x l =>
    rw [pickFirst, List.foldl_cons, show pickStep _ none x = some x from rfl, foldl_pickStep_some] at h
    cases h
    exact foldl_firstMax_scan htr (fun a b c hab hac => (hnt a b c hac).resolve_left (Bool.eq_false_iff.1 hab))
      l [] [] x nofun nofun

/-! ## `max_log_likelihood_sample` and `np.argmax` are this fold -/

theorem maxSample_eq_pickFirst (o : SOps V) (ss : List (Sample V)) :
    maxSample o ss = pickFirst (fun b s => o.lt b.ll s.ll) ss :=
  congrArg (ss.foldl · none) (funext fun best => funext fun _ => by cases best <;> rfl)

theorem npBetter_of_no_nan (o : SOps V) (nan : V → Bool) (hnan : ∀ x, nan x = false) : npBetter o nan = o.lt :=
  funext fun b => funext fun x => by rw [npBetter, hnan b, hnan x]; rfl

/-! ## flattenings -/

theorem column_map {α β} (f : α → β) (j : Nat) (m : List (List α)) :
    column j (m.map (List.map f)) = (column j m).map f := by
  simp only [column, List.filterMap_map, List.map_filterMap, Function.comp_def, List.getElem?_map]

theorem walkerMajor_map {α β} (f : α → β) (w : Nat) (m : List (List α)) :
    walkerMajor w (m.map (List.map f)) = (walkerMajor w m).map f := by
  simp only [walkerMajor, List.map_flatMap, column_map]

end AF.Samples
