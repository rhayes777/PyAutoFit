import AFModel.LogPrior

/-! `argsOfVector` entry by entry: the k-th parameter id paired with the k-th vector entry, as far as both go. -/

namespace AF.LogPriorLemmas
open AF

variable {V : Type}

theorem argsOfVector_length (t : Node V) (v : List V) :
    (argsOfVector t v).length = min (count t) v.length := by
  simp [argsOfVector, count]

theorem argsOfVector_getElem? (t : Node V) (v : List V) (k : Nat) :
    (argsOfVector t v)[k]? = match (uniqueIds t)[k]?, v[k]? with
      | some id, some x => some (id, x)
      | _, _ => none := by
  simp only [argsOfVector, List.zip_eq_zipWith]
  rw [List.getElem?_zipWith]
  cases (uniqueIds t)[k]? <;> cases v[k]? <;> rfl

end AF.LogPriorLemmas
