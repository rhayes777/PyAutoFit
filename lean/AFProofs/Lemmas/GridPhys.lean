import AFProofs.Lemmas.Grid
import AFProofs.Lemmas.Prior
import AFModel.GridPhys

/-! Lemmas for `AFModel/GridPhys.lean` (property C16), the float-level `UniformPrior.value_for` behind the
reported physical limits: section `Any` for every number type (in particular `Float`, the instance the
driver runs), section `Field` for every linearly ordered field. -/

open Lean Grind

namespace AF.Grid
open AF.Prior

section Any
variable {K : Type} [Add K] [Sub K] [Mul K] [Div K] [LE K] [LT K] [DecidableLE K] [DecidableLT K]
  [OfNat K 0] [OfNat K 1] [OfNat K 10]
set_option linter.unusedSectionVars false

theorem uniValue_ok (S : Special K) (lo hi q : K) (h : lo ≤ uniRaw lo hi q ∧ uniRaw lo hi q ≤ hi) :
    uniValue S lo hi q
      = .ok (clamp lo hi (S.round (decimalPlaces (hi - lo)) (uniRaw lo hi q))) := by
  simp [uniValue, finish, gate, uniParams, (inLimits_iff lo hi _).mpr h, uniformPost]

theorem uniValue_limit (S : Special K) (lo hi q : K)
    (h : ¬ (lo ≤ uniRaw lo hi q ∧ uniRaw lo hi q ≤ hi)) : uniValue S lo hi q = .limit := by
  simp [uniValue, finish, gate, uniParams, mt (inLimits_iff lo hi _).mp h]

theorem uniValue_eq_ok (S : Special K) (lo hi q v : K) (h : uniValue S lo hi q = .ok v) :
    (lo ≤ uniRaw lo hi q ∧ uniRaw lo hi q ≤ hi) ∧
      v = clamp lo hi (S.round (decimalPlaces (hi - lo)) (uniRaw lo hi q)) := by
  by_cases hr : lo ≤ uniRaw lo hi q ∧ uniRaw lo hi q ≤ hi
  · rw [uniValue_ok S lo hi q hr] at h
    exact ⟨hr, (Outcome.ok.inj h).symm⟩
  · rw [uniValue_limit S lo hi q hr] at h
    cases h

theorem physLists_unitLists (N : Num K) (S : Special K) (trip : K → K) (centre : Bool)
    (dims : List (Dim K)) :
    physLists S trip dims (unitLists N centre dims)
      = (lattice (counts dims)).map
          (cellAt (fun d i => uniValue S d.lo d.hi (trip (unitValue N centre d i))) dims) :=
  map_unitLists N centre dims _

end Any

section Field
variable {K : Type} [Field K] [LE K] [LT K] [Std.IsLinearOrder K] [Std.LawfulOrderLT K] [OrderedRing K]
  [DecidableLE K] [DecidableLT K]
set_option linter.unusedSectionVars false

theorem uniRaw_mono (lo hi q q' : K) (hLU : lo ≤ hi) (hq : q ≤ q') : uniRaw lo hi q ≤ uniRaw lo hi q' :=
  OrderedAdd.add_le_left (mul_le_mul_of_nonneg_right q q' (hi - lo) (OrderedAdd.sub_nonneg_iff.mpr hLU) hq) lo

theorem uniRaw_zero (lo hi : K) : uniRaw lo hi 0 = lo := by
  rw [uniRaw, Semiring.zero_mul, AddCommMonoid.zero_add]

theorem uniRaw_one (lo hi : K) : uniRaw lo hi 1 = hi := by
  rw [uniRaw, Semiring.one_mul, AddCommGroup.sub_add_cancel]

theorem uniRaw_mem (lo hi u : K) (hLU : lo ≤ hi) (h0 : 0 ≤ u) (h1 : u ≤ 1) :
    lo ≤ uniRaw lo hi u ∧ uniRaw lo hi u ≤ hi := by
  have a := uniRaw_mono lo hi 0 u hLU h0
  have b := uniRaw_mono lo hi u 1 hLU h1
  rw [uniRaw_zero] at a
  rw [uniRaw_one] at b
  exact ⟨a, b⟩

theorem clamp_id (L U v : K) (h : L ≤ v ∧ v ≤ U) : clamp L U v = v := by
  simp only [clamp, if_neg (Std.not_lt.mpr h.1), if_neg (Std.not_lt.mpr h.2)]

theorem uniValue_mem (S : Special K) (lo hi q v : K) (hLU : lo ≤ hi) (h : uniValue S lo hi q = .ok v) :
    lo ≤ v ∧ v ≤ hi :=
  (uniValue_eq_ok S lo hi q v h).2 ▸ clamp_mem _ _ _ hLU

theorem pyMax_of_le (a lo : K) (h : lo ≤ a) : pyMax a lo = a := if_neg (Std.not_lt.mpr h)

theorem pyMin_of_le (a hi : K) (h : a ≤ hi) : pyMin a hi = a := if_neg (Std.not_lt.mpr h)

end Field

end AF.Grid
