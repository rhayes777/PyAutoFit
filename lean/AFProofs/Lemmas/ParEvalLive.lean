import AFModel.ParLife
import AFProofs.Lemmas.ParEval

/-!
`Process.run_jobs` with the repaired worker loop (C14: stop tokens instead of `empty()`, an exception counted
once): the invariant of the shared queue, and that from every reachable state some finite continuation lets the
caller return.
-/

namespace AF.ParEval
variable {α : Type} {js : List (Res α)} {s s' : RunSt α}

theorem stopTokens_append (a b : List (QItem α)) : stopTokens (a ++ b) = stopTokens a + stopTokens b := by
  induction a with
  | nil => simp [stopTokens]
  | cons x t ih =>
    cases x with
    | job j => simp [stopTokens, ih]
    | stop => simp [stopTokens, ih]; omega

theorem stopTokens_jobs (l : List (Job α)) : stopTokens (l.map QItem.job) = 0 := by
  induction l with
  | nil => rfl
  | cons j t ih => simp [stopTokens, ih]

theorem stopTokens_replicate (n : Nat) : stopTokens (List.replicate n (QItem.stop : QItem α)) = n := by
  induction n with
  | zero => rfl
  | succ n ih => simp [List.replicate_succ, stopTokens, ih]

/-- what the stop-token loop maintains -/
structure RunLive (s : RunSt α) : Prop where
  cfgp : s.cfg.pollEmpty = false
  /-- the shared queue is "jobs, then stop tokens"; while a job is queued no worker has left -/
  shape : ∃ (jl : List (Job α)) (m : Nat), s.jobQ = jl.map QItem.job ++ List.replicate m QItem.stop ∧
    (jl ≠ [] → ∀ (k : Nat) (w : RWorker α), s.ws[k]? = some w → w.phase ≠ .dead)
  /-- the stop tokens on the shared queue are exactly one per worker that has not left -/
  tokens : stopTokens s.jobQ = liveWorkers s.ws

theorem runLive_init (P : Nat) (js : List (Res α)) : RunLive (initRun {} P js) := by
  refine ⟨rfl, ⟨enumFrom 0 js, P, by simp [initRun], fun _ k w hk => ?_⟩, ?_⟩
  · obtain ⟨_, rfl⟩ := List.mem_replicate.mp (List.mem_of_getElem? hk)
    simp
  · have : liveWorkers (List.replicate P ({} : RWorker α)) = P := by
      simp [liveWorkers, RWorker.live]
    simp [initRun, stopTokens_append, stopTokens_jobs, stopTokens_replicate, this]

theorem runLive_move (h : RunLive s) (m : s.Move s') : RunLive s' := by
  obtain ⟨jl, n, hq, hal⟩ := h.shape
  have htok := h.tokens
  -- a turn that changes neither the shared queue nor whether worker `k` has left
  have hsame : ∀ {k : Nat} {w x : RWorker α} {t : RunSt α}, s.ws[k]? = some w → t.ws = s.ws.set k x →
      x.phase = w.phase → t.cfg = s.cfg → t.jobQ = s.jobQ → RunLive t := by
    intro k w x t hk h3 hp h1 h2
    refine ⟨h1 ▸ h.cfgp, ⟨jl, n, h2 ▸ hq, fun hj => h3 ▸ forall_set (fun k w _ => hal hj k w) (hp ▸ hal hj _ _ hk)⟩, ?_⟩
    have := sum_map_set RWorker.live s.ws k w x hk
    simp only [RWorker.live, hp] at this
    rw [h2, h3]
    unfold liveWorkers at htok ⊢
    omega
  cases m with
  | stay => exact h
  | next c => exact ⟨h.cfgp, h.shape, h.tokens⟩
  | finish _ _ => exact ⟨h.cfgp, h.shape, h.tokens⟩
  | put hk _ => exact hsame hk rfl rfl rfl rfl
  | collect _ hk _ => exact hsame hk rfl rfl rfl rfl
  | poll ph hc _ _ _ => rw [h.cfgp] at hc; cases hc
  | @takeStop k w rest hk _ hp hjq =>
    have hlive := sum_map_set RWorker.live s.ws k w { w with phase := .dead } hk
    simp only [RWorker.live, hp, if_false, if_true] at hlive
    rw [hjq] at hq htok
    cases jl with
    | cons j jl' => simp at hq
    | nil =>
      cases n with
      | zero => simp at hq
      | succ n' =>
        refine ⟨h.cfgp, ⟨[], n', by simpa [List.replicate_succ] using hq, fun hj => absurd rfl hj⟩, ?_⟩
        show stopTokens rest = liveWorkers (s.ws.set k { w with phase := .dead })
        simp only [stopTokens, liveWorkers] at htok ⊢
        omega
  | @takeJob k w j rest hk _ hp hjq =>
    have hlive := sum_map_set RWorker.live s.ws k w { w with phase := .idle, hold := some j.res } hk
    have hw : w.live = 1 := by simp [RWorker.live, hp]
    have hx : RWorker.live ({ w with phase := .idle, hold := some j.res } : RWorker α) = 1 := by simp [RWorker.live]
    rw [hw, hx] at hlive
    rw [hjq] at hq htok
    cases jl with
    | nil => cases n <;> simp [List.replicate_succ] at hq
    | cons j' jl' =>
      simp only [List.map_cons, List.cons_append, List.cons.injEq] at hq
      refine ⟨h.cfgp, ⟨jl', n, hq.2, fun _ => forall_set (fun k w _ => hal (by simp) k w) (by simp)⟩, ?_⟩
      show stopTokens rest = liveWorkers (s.ws.set k { w with phase := .idle, hold := some j.res })
      simp only [stopTokens, liveWorkers] at htok ⊢
      omega

theorem runLive_run (h : RunLive s) (evs : List Ev) : RunLive (s.run evs) :=
  List.foldlRecOn evs RunSt.step h fun t h e _ => runLive_move h (t.step_move e)

theorem rmu_put {k : Nat} {w : RWorker α} {r : Res α} (hk : s.ws[k]? = some w)
    (hh : w.hold = some r) : (s.workerStep k false).mu < s.mu := by
  unfold RunSt.workerStep
  simp only [hk, hh, RunSt.mu]
  have h1 := sum_map_set RWorker.weight s.ws k w { w with hold := none, resQ := w.resQ ++ [r] } hk
  simp only [RWorker.weight, hh, List.length_append, List.length_singleton, Option.toList_some,
    Option.toList_none, List.length_nil] at h1 ⊢
  omega

theorem rmu_take {k : Nat} {w : RWorker α} {j : Job α} {rest : List (QItem α)}
    (hc : s.cfg.pollEmpty = false) (hk : s.ws[k]? = some w) (hh : w.hold = none) (hp : w.phase ≠ .dead)
    (hq : s.jobQ = .job j :: rest) : (s.workerStep k false).mu < s.mu := by
  have htake : (s.take k w).mu < s.mu := by
    unfold RunSt.take
    simp only [hq, RunSt.mu, jobsOf, List.length_cons]
    have h1 := sum_map_set RWorker.weight s.ws k w { w with phase := .idle, hold := some j.res } hk
    simp only [RWorker.weight, hh, Option.toList_some, Option.toList_none, List.length_nil,
      List.length_singleton] at h1 ⊢
    omega
  unfold RunSt.workerStep
  simp only [hk, hh]
  cases hph : w.phase with
  | dead => exact absurd hph hp
  | committed => exact htake
  | idle =>
    simp only [hc, Bool.false_eq_true, if_false]
    exact htake

theorem rmu_collect {w : RWorker α} {r : Res α} {rq : List (Res α)} (hd : s.done = false)
    (hk : s.ws[s.cursor]? = some w) (hr : w.resQ = r :: rq) : (s.mainStep false).mu < s.mu := by
  unfold RunSt.mainStep
  simp only [hd, hk, hr, RunSt.mu, Bool.false_eq_true, if_false]
  have h1 := sum_map_set RWorker.weight s.ws _ w { w with resQ := rq } hk
  simp only [RWorker.weight, hr, List.length_cons] at h1 ⊢
  omega

theorem main_skip_eq (hd : s.done = false)
    (h : ∀ w, s.ws[s.cursor]? = some w → w.resQ = []) : s.mainStep false = s.advance := by
  unfold RunSt.mainStep
  simp only [hd, Bool.false_eq_true, if_false]
  cases hc : s.ws[s.cursor]? with
  | none => rfl
  | some w => simp only [h w hc]

theorem exists_pipe_of_rpipes (ws : List (RWorker α)) (h : rpipes ws ≠ []) :
    ∃ (k : Nat) (w : RWorker α), ws[k]? = some w ∧ w.pipe ≠ [] := by
  induction ws with
  | nil => simp [rpipes] at h
  | cons a t ih =>
    by_cases ha : a.pipe = []
    · obtain ⟨k, w, hk, hw⟩ := ih (fun ht => h (by simp [rpipes, ha, ht]))
      exact ⟨k + 1, w, by simpa using hk, hw⟩
    · exact ⟨0, a, rfl, ha⟩

def rmainN (j : Nat) (s : RunSt α) : RunSt α := s.run (List.replicate j ⟨0, false⟩)

theorem rmainN_succ (j : Nat) (s : RunSt α) : rmainN (j + 1) s = rmainN j (s.mainStep false) := rfl

/-- The caller's turns while it has not returned: it collects a result, or ends its pass and returns, or ends
its pass and stands at worker 0 again having seen nothing but empty result queues. -/
theorem scan (hd : s.done = false) :
    ∃ j, (rmainN j s).mu < s.mu ∨ (rmainN j s).done = true ∨
      (s.count < s.total ∧ rmainN j s = { s with cursor := 0 } ∧
        ∀ (k : Nat) (w : RWorker α), s.cursor ≤ k → s.ws[k]? = some w → w.resQ = []) := by
  induction hn : s.ws.length - s.cursor using Nat.strongRecOn generalizing s with
  | ind n ih =>
    by_cases hq : ∀ w, s.ws[s.cursor]? = some w → w.resQ = []
    · have hm := main_skip_eq hd hq
      by_cases hlt : s.cursor + 1 < s.ws.length
      · have hadv : s.advance = { s with cursor := s.cursor + 1 } := by simp [RunSt.advance, hlt]
        obtain ⟨j, hj⟩ := ih _ (by rw [← hn]; show s.ws.length - (s.cursor + 1) < _; omega)
          (s := { s with cursor := s.cursor + 1 }) hd rfl
        refine ⟨j + 1, ?_⟩
        rw [rmainN_succ, hm, hadv]
        refine hj.imp id (Or.imp id fun ⟨h1, h2, h3⟩ => ⟨h1, h2, fun k w hk hw => ?_⟩)
        rcases Nat.eq_or_lt_of_le hk with rfl | hk'
        · exact hq w hw
        · exact h3 k w hk' hw
      · refine ⟨1, ?_⟩
        rw [rmainN_succ, hm]
        by_cases hc : s.count < s.total
        · refine .inr (.inr ⟨hc, by simp [rmainN, RunSt.run, RunSt.advance, RunSt.endOfPass, hlt, hc],
            fun k w hk hw => ?_⟩)
          have := lt_of_getElem?_some hw
          have : s.cursor = k := by omega
          exact hq w (this ▸ hw)
        · exact .inr (.inl (by simp [rmainN, RunSt.run, RunSt.advance, RunSt.endOfPass, hlt, hc]))
    · cases hk : s.ws[s.cursor]? with
      | none => exact absurd (fun w hw => by rw [hk] at hw; cases hw) hq
      | some w =>
        cases hr : w.resQ with
        | nil => exact absurd (fun w' hw' => by rw [hk] at hw'; cases hw'; exact hr) hq
        | cons r rq => exact ⟨1, .inl (rmu_collect hd hk hr)⟩

theorem rexists_done_or_decrease (hi : RunInv js s) (hl : RunLive s)
    (hpos : 0 < s.ws.length) (hct : s.cfg.countTwice = false) (hd : s.done = false) :
    ∃ evs, (s.run evs).done = true ∨ (s.run evs).mu < s.mu := by
  by_cases hhold : ∃ (k : Nat) (w : RWorker α), s.ws[k]? = some w ∧ w.hold ≠ none
  · obtain ⟨k, w, hk, hw⟩ := hhold
    obtain ⟨r, hr⟩ := Option.ne_none_iff_exists'.mp hw
    exact ⟨[⟨k + 1, false⟩], .inr (rmu_put hk hr)⟩
  · have hnohold : ∀ (k : Nat) (w : RWorker α), s.ws[k]? = some w → w.hold = none :=
      fun k w hk => Classical.byContradiction fun h => hhold ⟨k, w, hk, h⟩
    obtain ⟨jl, m, hq, hal⟩ := hl.shape
    cases jl with
    | cons j jl' =>
      -- a job is queued and every worker is still there: worker 0 takes it
      have h0 := List.getElem?_eq_getElem hpos
      exact ⟨[⟨1, false⟩], .inr (rmu_take hl.cfgp h0 (hnohold _ _ h0) (hal (by simp) _ _ h0) (by simpa using hq))⟩
    | nil =>
      -- every result is on a result queue or yielded: one pass of the caller, and if that collects nothing
      -- and more is to come, the next pass starts at worker 0 and finds it
      obtain ⟨j, hj | hj | ⟨hc, hs0, _⟩⟩ := scan hd
      · exact ⟨_, .inr hj⟩
      · exact ⟨_, .inl hj⟩
      · obtain ⟨j', hj'⟩ := scan (s := { s with cursor := 0 }) hd
        refine ⟨List.replicate j ⟨0, false⟩ ++ List.replicate j' ⟨0, false⟩, ?_⟩
        rw [RunSt.run_append]
        show (rmainN j' (rmainN j s)).done = true ∨ (rmainN j' (rmainN j s)).mu < s.mu
        rw [hs0]
        rcases hj' with hj' | hj' | ⟨_, _, hempty⟩
        · exact .inr hj'
        · exact .inl hj'
        · exfalso
          have hlen := hi.bag.length_eq
          have hcnt := hi.count hct
          have htot := hi.total
          have hnojobs : jobsOf s.jobQ = [] := by rw [hq]; simp [jobsOf_replicate_stop]
          simp only [List.length_append, List.length_map, hnojobs, List.length_nil] at hlen
          obtain ⟨k, w, hk, hw⟩ := exists_pipe_of_rpipes s.ws (fun h0 => by simp [h0] at hlen; omega)
          exact hw (by simp [RWorker.pipe, hempty k w (Nat.zero_le _) hk, hnohold k w hk])

theorem rcan_finish (hi : RunInv js s) (hl : RunLive s)
    (hpos : 0 < s.ws.length) (hct : s.cfg.countTwice = false) : ∃ evs, (s.run evs).done = true := by
  induction hn : s.mu using Nat.strongRecOn generalizing s with
  | ind n ih =>
    cases hd : s.done with
    | true => exact ⟨[], hd⟩
    | false =>
      obtain ⟨evs, h | h⟩ := rexists_done_or_decrease hi hl hpos hct hd
      · exact ⟨evs, h⟩
      · obtain ⟨evs', h'⟩ := ih _ (hn ▸ h) (runInv_run hi evs) (runLive_run hl evs)
          (by rw [RunSt.run_length]; exact hpos) (by rw [RunSt.run_cfg]; exact hct) rfl
        exact ⟨evs ++ evs', by rw [RunSt.run_append]; exact h'⟩

end AF.ParEval
