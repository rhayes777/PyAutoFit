import AFModel.GateRoute

/-! Which assertions the recursion of `instance_for_arguments` meets (`ANode.trees` against `Reach`), and
where its trace of `check_assertions` calls stops. -/

namespace AF

variable {V : Type}

theorem flattenTrees_append : ∀ (xs ys : List (ATree V)),
    flattenTrees (xs ++ ys) = flattenTrees xs ++ flattenTrees ys := by
  intro xs ys
  induction xs with
  | nil => simp [flattenTrees]
  | cons x xs ih => simp [flattenTrees, ih]

theorem flattenTrees_single (t : ATree V) : flattenTrees [t] = t.flatten := by
  simp [flattenTrees]

theorem reach_iff (c d : ANode V) : Reach c d ↔ d = c ∨ ∃ k ∈ c.kids, Reach k d := by
  constructor
  · intro h
    cases h with
    | refl => exact Or.inl rfl
    | step hk hr => exact Or.inr ⟨_, hk, hr⟩
  · rintro (rfl | ⟨k, hk, hr⟩)
    · exact Reach.refl _
    · exact Reach.step hk hr

theorem reach_trans {c d e : ANode V} (h₁ : Reach c d) (h₂ : Reach d e) : Reach c e := by
  induction h₁ with
  | refl => exact h₂
  | step hk _ ih => exact Reach.step hk (ih h₂)

/-- what a node contributes: its own assertions, then those below its kids -/
def Below (c : ANode V) (a : Asrt V) : Prop := ∃ d, Reach c d ∧ a ∈ d.asserts

theorem below_iff (c : ANode V) (a : Asrt V) :
    Below c a ↔ a ∈ c.asserts ∨ ∃ k ∈ c.kids, Below k a := by
  unfold Below
  constructor
  · rintro ⟨d, hr, ha⟩
    rcases (reach_iff c d).mp hr with rfl | ⟨k, hk, hr'⟩
    · exact Or.inl ha
    · exact Or.inr ⟨k, hk, d, hr', ha⟩
  · rintro (ha | ⟨k, hk, d, hr, ha⟩)
    · exact ⟨c, Reach.refl c, ha⟩
    · exact ⟨d, Reach.step hk hr, ha⟩

theorem flattenTrees_trees (c : ANode V) :
    flattenTrees c.trees = c.asserts ++ flattenTrees (rootless c.trees) := by
  cases c <;> simp only [ANode.trees, rootless, flattenTrees, ATree.flatten, ANode.asserts, List.append_nil,
    List.nil_append]

theorem mem_trees_of_rootless {c : ANode V} {a : Asrt V}
    (h : a ∈ flattenTrees (rootless c.trees) ↔ ∃ k ∈ c.kids, Below k a) :
    a ∈ flattenTrees c.trees ↔ Below c a := by
  rw [below_iff, ← h, flattenTrees_trees, List.mem_append]

mutual
theorem mem_rootless_iff : ∀ (c : ANode V) (a : Asrt V),
    a ∈ flattenTrees (rootless c.trees) ↔ ∃ k ∈ c.kids, Below k a
  | .leaf n, a => by simp [ANode.trees, rootless, flattenTrees, ANode.kids]
  | .model _ _ _ attrs, a | .coll _ attrs, a | .array _ _ attrs, a => by
      simp only [ANode.trees, rootless, flattenTrees, ATree.flatten, List.nil_append, List.append_nil]
      exact mem_attrTrees_iff attrs a
  | .arith op as attrs l r, a => by
      simp only [ANode.trees, rootless, flattenTrees, ATree.flatten, List.nil_append,
        List.append_nil, flattenTrees_append, List.mem_append, ANode.kids, List.mem_cons,
        List.not_mem_nil, or_false, exists_eq_or_imp, exists_eq_left,
        mem_trees_of_rootless (mem_rootless_iff l a), mem_trees_of_rootless (mem_rootless_iff r a)]
  | .modif op as attrs x, a => by
      simp only [ANode.trees, rootless, flattenTrees, ATree.flatten, List.nil_append,
        List.append_nil, ANode.kids, List.mem_cons, List.not_mem_nil, or_false, exists_eq_left,
        mem_trees_of_rootless (mem_rootless_iff x a)]
theorem mem_attrTrees_iff : ∀ (attrs : List (String × ANode V)) (a : Asrt V),
    a ∈ flattenTrees (attrTrees attrs) ↔ ∃ k ∈ attrs.map (·.2), Below k a
  | [], a => by simp [attrTrees, flattenTrees]
  | (_, n) :: rest, a => by
      simp only [attrTrees, flattenTrees_append, List.mem_append, List.map_cons, List.mem_cons,
        exists_eq_or_imp, mem_trees_of_rootless (mem_rootless_iff n a), mem_attrTrees_iff rest a]
end

/-- the assertions the recursion visits below a node are exactly those attached to a reachable node -/
theorem mem_trees_iff : ∀ (c : ANode V) (a : Asrt V), a ∈ flattenTrees c.trees ↔ Below c a :=
  fun c a => mem_trees_of_rootless (mem_rootless_iff c a)

theorem forall_mem_trees_iff (c : ANode V) (p : Asrt V → Prop) :
    (∀ a ∈ flattenTrees c.trees, p a) ↔ ∀ d, Reach c d → ∀ a ∈ d.asserts, p a :=
  ⟨fun h d hr a ha => h a ((mem_trees_iff c a).mpr ⟨d, hr, ha⟩),
   fun h a ha => let ⟨d, hr, had⟩ := (mem_trees_iff c a).mp ha; h d hr a had⟩

variable [Inhabited V]

/-- a verdict list with a failure -/
def hasFalse (vs : List Bool) : Bool := vs.any (fun b => !b)

theorem hasFalse_map {α} (f : α → Bool) (as : List α) : hasFalse (as.map f) = !as.all f := by
  simp [hasFalse, List.all_eq_not_any_not, Function.comp_def]

mutual
theorem traceTree_of_check (ops : Ops V) (ρ : Nat → Inst V) : ∀ (t : ATree V),
    checkTree ops ρ t = true →
      traceTree ops ρ t = fullTrace ops ρ t ∧ ∀ vs ∈ traceTree ops ρ t, hasFalse vs = false
  | .node as cs, h => by
      rw [checkTree, Bool.and_eq_true] at h
      obtain ⟨he, hc⟩ := traceTrees_of_check ops ρ cs h.2
      rw [traceTree, if_pos h.1, fullTrace]
      exact ⟨congrArg _ he, List.forall_mem_cons.mpr ⟨by rw [hasFalse_map, h.1]; rfl, hc⟩⟩
theorem traceTrees_of_check (ops : Ops V) (ρ : Nat → Inst V) : ∀ (ts : List (ATree V)),
    checkTrees ops ρ ts = true →
      traceTrees ops ρ ts = fullTraces ops ρ ts ∧ ∀ vs ∈ traceTrees ops ρ ts, hasFalse vs = false
  | [], _ => ⟨rfl, fun _ h => nomatch h⟩
  | t :: rest, h => by
      rw [checkTrees, Bool.and_eq_true] at h
      obtain ⟨he, hc⟩ := traceTree_of_check ops ρ t h.1
      obtain ⟨he', hc'⟩ := traceTrees_of_check ops ρ rest h.2
      rw [traceTrees, if_pos h.1, fullTraces]
      exact ⟨congr (congrArg _ he) he', fun vs hvs => (List.mem_append.mp hvs).elim (hc vs) (hc' vs)⟩
end

/-- a trace that stops at the first node with a failed assertion -/
def EndsAtFailure (tr : List (List Bool)) : Prop :=
  ∃ pre last, tr = pre ++ [last] ∧ hasFalse last = true ∧ ∀ vs ∈ pre, hasFalse vs = false

theorem EndsAtFailure.append {xs tr : List (List Bool)} (hx : ∀ vs ∈ xs, hasFalse vs = false) :
    EndsAtFailure tr → EndsAtFailure (xs ++ tr)
  | ⟨pre, last, he, hl, hp⟩ => ⟨xs ++ pre, last, by rw [he, List.append_assoc], hl,
      fun vs h => (List.mem_append.mp h).elim (hx vs) (hp vs)⟩

mutual
theorem traceTree_of_fail (ops : Ops V) (ρ : Nat → Inst V) : ∀ (t : ATree V),
    checkTree ops ρ t = false → EndsAtFailure (traceTree ops ρ t)
  | .node as cs, h => by
      rw [traceTree]
      cases ha : as.all (evalA ops ρ)
      · exact ⟨[], _, rfl, by rw [hasFalse_map, ha]; rfl, by simp⟩
      · rw [checkTree, ha, Bool.true_and] at h
        exact (traceTrees_of_fail ops ρ cs h).append (xs := [_]) (by simp [hasFalse_map, ha])
theorem traceTrees_of_fail (ops : Ops V) (ρ : Nat → Inst V) : ∀ (ts : List (ATree V)),
    checkTrees ops ρ ts = false → EndsAtFailure (traceTrees ops ρ ts)
  | [], h => by simp [checkTrees] at h
  | t :: rest, h => by
      rw [traceTrees]
      cases ht : checkTree ops ρ t
      · exact traceTree_of_fail ops ρ t ht
      · rw [checkTrees, ht, Bool.true_and] at h
        exact (traceTrees_of_fail ops ρ rest h).append (traceTree_of_check ops ρ t ht).2
end

end AF
