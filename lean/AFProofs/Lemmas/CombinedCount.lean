import AFProofs.Lemmas.Combined

/-! The parameters of the model fitted with free parameters, listed without repetition: the shared
ones, then one block of copies of the free ones per analysis; the dimension is the length. -/

namespace AF.Combined
open AF

/-- the copies of the parameters `Fr` made for analyses `0 … n-1`, analysis by analysis -/
def freeBlocks (F : List Nat) (base : Nat) (Fr : List Nat) (n : Nat) : List Nat :=
  ((List.range n).map (fun k => Fr.map (freeRename F base k))).flatten

theorem freeBlocks_succ (F : List Nat) (base : Nat) (Fr : List Nat) (n : Nat) :
    freeBlocks F base Fr (n + 1) = freeBlocks F base Fr n ++ Fr.map (freeRename F base n) := by
  rw [freeBlocks, List.range_succ, List.map_append, List.flatten_append]
  exact congrArg (freeBlocks F base Fr n ++ ·) (List.append_nil _)

theorem mem_freeBlocks {F : List Nat} {base : Nat} {Fr : List Nat} {n x : Nat} :
    x ∈ freeBlocks F base Fr n ↔ ∃ k, k < n ∧ ∃ id, id ∈ Fr ∧ freeRename F base k id = x := by
  simp only [freeBlocks, List.mem_flatten, List.mem_map, List.mem_range]
  constructor
  · rintro ⟨_, ⟨k, hk, rfl⟩, hx⟩
    exact ⟨k, hk, List.mem_map.mp hx⟩
  · rintro ⟨k, hk, hx⟩
    exact ⟨_, ⟨k, hk, rfl⟩, List.mem_map.mpr hx⟩

theorem length_freeBlocks (F : List Nat) (base : Nat) (Fr : List Nat) (n : Nat) :
    (freeBlocks F base Fr n).length = n * Fr.length := by
  induction n with
  | zero => rw [Nat.zero_mul]; rfl
  | succ n ih => rw [freeBlocks_succ, List.length_append, List.length_map, ih, Nat.succ_mul]

theorem nodup_freeBlocks {F : List Nat} (base : Nat) {Fr : List Nat} (hnd : Fr.Nodup)
    (hF : ∀ id ∈ Fr, id ∈ F) (n : Nat) : (freeBlocks F base Fr n).Nodup := by
  induction n with
  | zero => exact List.nodup_nil
  | succ n ih =>
    rw [freeBlocks_succ, List.nodup_append]
    refine ⟨ih, ?_, ?_⟩
    · rw [List.Nodup, List.pairwise_map]
      exact hnd.imp_of_mem fun ha hb hab he => hab (freeRename_inj base n n _ _ (hF _ ha) (hF _ hb) he).2
    · intro a ha b hb hab
      obtain ⟨k, hk, id, hid, he⟩ := mem_freeBlocks.mp ha
      obtain ⟨id', hid', he'⟩ := List.mem_map.mp hb
      have := (freeRename_inj base k n id id' (hF id hid) (hF id' hid') (by rw [he, he', hab])).1
      exact absurd (this ▸ hk) (Nat.lt_irrefl _)

theorem ids_freeModel {V : Type} (t : Node V) (F : List Nat) (base n : Nat) :
    (walk (freeModel t F base n)).map (·.2) = freeBlocks F base ((walk t).map (·.2)) n := by
  rw [walk_freeModel, List.map_flatten, List.map_map, freeBlocks]
  congr 2
  funext k
  show ((walk t).map _).map Prod.snd = ((walk t).map Prod.snd).map (freeRename F base k)
  rw [List.map_map, List.map_map]
  rfl

theorem mem_freeModel_iff {V : Type} (t : Node V) (F : List Nat) (base n : Nat) (hn : 1 ≤ n)
    (x : Nat) :
    x ∈ uniqueIds (freeModel t F base n) ↔
      x ∈ (uniqueIds t).filter (fun id => !F.contains id) ++
        freeBlocks F base ((uniqueIds t).filter (fun id => F.contains id)) n := by
  rw [mem_uniqueIds, ids_freeModel, mem_freeBlocks, List.mem_append, mem_freeBlocks, List.mem_filter]
  constructor
  · rintro ⟨k, hk, id, hid, he⟩
    by_cases hF : id ∈ F
    · exact .inr ⟨k, hk, id, List.mem_filter.mpr ⟨mem_uniqueIds.mpr hid, List.contains_iff_mem.mpr hF⟩, he⟩
    · rw [freeRename_shared base k id hF] at he
      exact .inl ⟨mem_uniqueIds.mpr (he ▸ hid), by simpa [← he] using hF⟩
  · rintro (⟨hx, hc⟩ | ⟨k, hk, id, hid, he⟩)
    · exact ⟨0, hn, x, mem_uniqueIds.mp hx, freeRename_shared base 0 x (by simpa using hc)⟩
    · exact ⟨k, hk, id, mem_uniqueIds.mp (List.mem_filter.mp hid).1, he⟩

theorem perm_uniqueIds_freeModel {V : Type} (t : Node V) (F : List Nat) (base n : Nat) (hn : 1 ≤ n)
    (hbase : ∀ id ∈ uniqueIds t, id < base) :
    (uniqueIds (freeModel t F base n)).Perm
      ((uniqueIds t).filter (fun id => !F.contains id) ++
        freeBlocks F base ((uniqueIds t).filter (fun id => F.contains id)) n) := by
  refine (List.perm_ext_iff_of_nodup (nodup_uniqueIds _) ?_).mpr (mem_freeModel_iff t F base n hn)
  have hU := nodup_uniqueIds t
  have hFr : ∀ id ∈ (uniqueIds t).filter (fun id => F.contains id), id ∈ F :=
    fun id hid => List.contains_iff_mem.mp (List.mem_filter.mp hid).2
  rw [List.nodup_append]
  refine ⟨hU.sublist List.filter_sublist, nodup_freeBlocks base (hU.sublist List.filter_sublist) hFr n, ?_⟩
  -- a shared parameter is one of the model's own, below `base`; every copy is at or above it
  intro a ha b hb hab
  obtain ⟨k, _, id, hid, he⟩ := mem_freeBlocks.mp hb
  exact absurd (hab ▸ he ▸ freeRename_fresh base k id (hFr id hid))
    (Nat.not_le.mpr (hbase a (List.mem_filter.mp ha).1))

example : count (freeModel (Node.model "G" ["a","b","c"] [("a", .prior 5), ("b", .prior 6), ("c", .prior 7)] : Node Nat) [5] 8 3) = 5 := by decide +kernel

end AF.Combined
