import AFModel.RecCache

/-! A call through the recursion cache leaves the cache as it found it, whether the wrapped function returns,
raises or meets a promise (the `finally` block), by mutual induction over the call and its children. -/

namespace AF.RC
open AF

mutual
theorem rcall_cache : ∀ (s : RState) (c : RCall), (rcall s c).1.cache = s.cache
  | s, .node id raises children => by
    have ih := rchildren_cache { cache := id :: s.cache, trace := s.trace ++ [id] } children
    unfold rcall
    split
    · rfl
    · dsimp only
      split
      · exact ih ▸ List.erase_cons_head ..
      · split <;> exact ih ▸ List.erase_cons_head ..
theorem rchildren_cache : ∀ (s : RState) (cs : List RCall), (rchildren s cs).1.cache = s.cache
  | _, [] => rfl
  | s, c :: rest => by
    unfold rchildren
    dsimp only
    split
    · exact rcall_cache s c
    · exact (rchildren_cache _ rest).trans (rcall_cache s c)
end

theorem rcalls_cache : ∀ (cs : List RCall) (s : RState), (rcalls s cs).1.cache = s.cache
  | [], _ => rfl
  | c :: rest, s => (rcalls_cache rest _).trans (rcall_cache s c)

end AF.RC
