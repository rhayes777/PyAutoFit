import AFModel.Migrate

/-! What `getSteps`, the statement loop and single statements of `AFModel/Migrate.lean` do, and `session_fixed`,
the closed form of one open by the repaired code, from which `AFProofs/C19.lean` reads off its theorems about
opens. Core Lean only. -/

namespace AF.Migrate

theorem revIndex_get {l : List String} (hn : l.Nodup) {k : Nat} (hk : k < l.length) :
    revIndex l l[k] = some k := by
  induction l generalizing k with
  | nil => simp at hk
  | cons r rs ih =>
    cases k with
    | zero => simp [revIndex]
    | succ k =>
      have hk' : k < rs.length := by simpa using hk
      have hnd := List.nodup_cons.mp hn
      have hne : r ≠ rs[k] := fun h => hnd.1 (h ▸ List.getElem_mem hk')
      simp [revIndex, hne, ih hnd.2 hk']

theorem revIndex_some {l : List String} {rid : String} {i : Nat} (h : revIndex l rid = some i) :
    ∃ hi : i < l.length, l[i] = rid := by
  induction l generalizing i with
  | nil => simp [revIndex] at h
  | cons r rs ih =>
    simp only [revIndex] at h
    split at h
    · rename_i hr
      cases h
      exact ⟨by simp, by simpa using hr⟩
    · cases hrs : revIndex rs rid with
      | none => simp [hrs] at h
      | some j =>
        simp [hrs] at h
        subst h
        obtain ⟨hj, hje⟩ := ih hrs
        exact ⟨by simpa using hj, by simpa using hje⟩

theorem revIndex_none {l : List String} {rid : String} (h : rid ∉ l) : revIndex l rid = none := by
  induction l with
  | nil => rfl
  | cons r rs ih =>
    have h1 : r ≠ rid := fun e => h (e ▸ List.mem_cons_self)
    have h2 : rid ∉ rs := fun m => h (List.mem_cons_of_mem _ m)
    simp [revIndex, h1, ih h2]

/-- `latest - revision` (a filter on step ids) is the suffix, when step ids are distinct -/
theorem filter_not_in_take (steps : List Step) (hn : (steps.map (·.id)).Nodup) (m : Nat) :
    steps.filter (fun s => s.id ∉ (steps.take m).map (·.id)) = steps.drop m := by
  induction steps generalizing m with
  | nil => simp
  | cons s rest ih =>
    cases m with
    | zero => simp
    | succ m =>
      rw [List.map_cons] at hn
      have hnd := List.nodup_cons.mp hn
      have hs : s.id ∉ rest.map (·.id) := hnd.1
      simp only [List.take_succ_cons, List.map_cons, List.drop_succ_cons]
      rw [List.filter_cons]
      simp only [List.mem_cons, true_or, not_true_eq_false, decide_false, Bool.false_eq_true, if_false]
      rw [← ih hnd.2 m]
      apply List.filter_congr
      intro x hx
      have hne : x.id ≠ s.id := fun e => hs (e ▸ List.mem_map_of_mem hx)
      simp [hne]

theorem getSteps_stamped (tbl : Table) (hw : tbl.WF) (k : Nat) (hk : k < tbl.revIds.length) :
    getSteps tbl (some tbl.revIds[k]) = tbl.steps.drop (k + 1) := by
  simp only [getSteps, revIndex_get hw.revs hk]
  exact filter_not_in_take tbl.steps hw.stepIds (k + 1)

theorem getSteps_none_isEmpty_false (tbl : Table) (hne : tbl.steps ≠ []) : (getSteps tbl none).isEmpty = false := by
  simp [getSteps, hne]

theorem getSteps_unknown (tbl : Table) (rid : String) (h : rid ∉ tbl.revIds) :
    getSteps tbl (some rid) = tbl.steps := by
  simp [getSteps, revIndex_none h]

theorem latestId_eq (tbl : Table) (h : 0 < tbl.revIds.length) :
    latestId tbl = tbl.revIds[tbl.revIds.length - 1]'(Nat.sub_one_lt_of_lt h) := by
  rw [latestId, List.getLast?_eq_getElem?, List.getElem?_eq_getElem (Nat.sub_one_lt_of_lt h), Option.getD_some]

theorem getSteps_eq_nil_iff (tbl : Table) (hw : tbl.WF) (hne : tbl.steps ≠ []) (r : Option String) :
    getSteps tbl r = [] ↔ r = some (latestId tbl) := by
  have hlen := hw.len
  have hpos : 0 < tbl.revIds.length := hlen ▸ List.length_pos_iff.mpr hne
  rw [latestId_eq tbl hpos]
  constructor
  · intro h
    cases r with
    | none => exact absurd h hne
    | some rid =>
      cases hi : revIndex tbl.revIds rid with
      | none => simp [getSteps, hi] at h; exact absurd h hne
      | some i =>
        obtain ⟨hlt, rfl⟩ := revIndex_some hi
        rw [getSteps_stamped tbl hw i hlt, List.drop_eq_nil_iff] at h
        have : i = tbl.revIds.length - 1 :=
          Nat.le_antisymm (Nat.le_sub_one_of_lt hlt) (Nat.sub_le_of_le_add (hlen ▸ h))
        subst this
        rfl
  · rintro rfl
    rw [getSteps_stamped tbl hw _ (Nat.sub_one_lt_of_lt hpos)]
    exact List.drop_eq_nil_of_le (Nat.le_of_eq (hlen.symm.trans (Nat.sub_add_cancel hpos).symm))

theorem getSteps_subset (tbl : Table) (r : Option String) : getSteps tbl r ⊆ tbl.steps := by
  cases r with
  | none => exact List.Subset.refl _
  | some rid =>
    simp only [getSteps]
    split
    · exact List.filter_sublist.subset
    · exact List.Subset.refl _

theorem stmtsOf_subset {l l' : List Step} (h : l ⊆ l') : stmtsOf l ⊆ stmtsOf l' := by
  intro st hst
  simp only [stmtsOf, List.mem_flatMap] at hst ⊢
  obtain ⟨s, hs, hm⟩ := hst
  exact ⟨s, h hs, hm⟩

theorem runStmts_attempted (s : Schema) (l : List Stmt) : (runStmts s l).2.map (·.1) = l := by
  induction l generalizing s with
  | nil => rfl
  | cons st rest ih =>
    simp only [runStmts]
    split <;> simp [ih]

theorem runStmts_append (s : Schema) (l₁ l₂ : List Stmt) :
    (runStmts s (l₁ ++ l₂)).1 = (runStmts (runStmts s l₁).1 l₂).1 := by
  induction l₁ generalizing s with
  | nil => rfl
  | cons st rest ih =>
    simp only [List.cons_append, runStmts]
    split <;> simp [ih]

theorem colsOf_mapTable_same (s : Schema) (t : String) (f : List String → List String) :
    colsOf (mapTable s t f) t = (colsOf s t).map f := by
  induction s with
  | nil => rfl
  | cons p rest ih =>
    by_cases h : p.1 = t
    · simp [mapTable, colsOf, h]
    · simp [mapTable, colsOf, h, ih]

theorem colsOf_mapTable_other (s : Schema) (t t' : String) (f : List String → List String) (h : t' ≠ t) :
    colsOf (mapTable s t f) t' = colsOf s t' := by
  induction s with
  | nil => rfl
  | cons p rest ih =>
    by_cases hn : p.1 = t
    · simp [mapTable, colsOf, hn, Ne.symm h]
    · simp only [mapTable, colsOf, hn, if_false, ih]

theorem colsOf_append (s s' : Schema) (t : String) :
    colsOf (s ++ s') t = (colsOf s t).orElse fun _ => colsOf s' t := by
  induction s with
  | nil => rfl
  | cons p rest ih =>
    by_cases h : p.1 = t
    · simp [colsOf, h]
    · simp [colsOf, h, ih]

theorem hasCol_iff (s : Schema) (t c : String) :
    hasCol s t c = true ↔ ∃ cs, colsOf s t = some cs ∧ c ∈ cs := by
  simp only [hasCol]
  cases h : colsOf s t with
  | none => simp
  | some cs => simp

theorem applyStmt_eq_some {s s' : Schema} {st : Stmt} (h : applyStmt s st = some s') :
    match st with
    | .addColumn t c => ∃ cs, colsOf s t = some cs ∧ c ∉ cs ∧ s' = mapTable s t (· ++ [c])
    | .createTable t cols => colsOf s t = none ∧ s' = s ++ [(t, cols)]
    | .renameColumn t a b => ∃ cs, colsOf s t = some cs ∧ (a ∈ cs ∧ b ∉ cs) ∧ s' = mapTable s t (renameIn a b)
    | .dropColumn t c =>
      ∃ cs, colsOf s t = some cs ∧ (c ∈ cs ∧ 1 < cs.length) ∧ s' = mapTable s t (·.filter (· ≠ c)) := by
  cases st <;> simp only [applyStmt] at h <;> split at h <;> try split at h
  all_goals simp_all

theorem hasCol_mapTable (s : Schema) (t t' c : String) (f : List String → List String)
    (hc : hasCol s t' c = true) (hf : t' = t → ∀ cs, c ∈ cs → c ∈ f cs) :
    hasCol (mapTable s t f) t' c = true := by
  obtain ⟨cs, hcs, hmem⟩ := (hasCol_iff s t' c).mp hc
  rw [hasCol_iff]
  by_cases ht : t' = t
  · subst ht
    exact ⟨f cs, by rw [colsOf_mapTable_same, hcs]; rfl, hf rfl cs hmem⟩
  · exact ⟨cs, by rw [colsOf_mapTable_other _ _ _ _ ht, hcs], hmem⟩

theorem hasCol_applyStmt (s s' : Schema) (st : Stmt) (t c : String)
    (hap : applyStmt s st = some s') (hc : hasCol s t c = true) (hr : st.removes t c = false) :
    hasCol s' t c = true := by
  have hap := applyStmt_eq_some hap
  cases st with
  | createTable t' cols =>
    obtain ⟨-, rfl⟩ := hap
    obtain ⟨cs, hcs, hmem⟩ := (hasCol_iff s t c).mp hc
    exact (hasCol_iff _ t c).mpr ⟨cs, by rw [colsOf_append, hcs]; rfl, hmem⟩
  | addColumn t' c' =>
    obtain ⟨-, -, -, rfl⟩ := hap
    exact hasCol_mapTable s t' t c _ hc fun _ _ h => List.mem_append_left _ h
  | renameColumn t' a b =>
    obtain ⟨-, -, -, rfl⟩ := hap
    refine hasCol_mapTable s t' t c _ hc fun ht cs h => List.mem_map.mpr ⟨c, h, if_neg ?_⟩
    rintro rfl
    simp [Stmt.removes, ht] at hr
  | dropColumn t' c' =>
    obtain ⟨-, -, -, rfl⟩ := hap
    refine hasCol_mapTable s t' t c _ hc fun ht cs h => List.mem_filter.mpr ⟨h, decide_eq_true ?_⟩
    rintro rfl
    simp [Stmt.removes, ht] at hr

theorem hasCol_runStmts (s : Schema) (l : List Stmt) (t c : String)
    (hc : hasCol s t c = true) (hr : ∀ st ∈ l, st.removes t c = false) :
    hasCol (runStmts s l).1 t c = true := by
  induction l generalizing s with
  | nil => exact hc
  | cons st rest ih =>
    simp only [runStmts]
    have hrest : ∀ st ∈ rest, st.removes t c = false := fun x hx => hr x (List.mem_cons_of_mem _ hx)
    split
    · rename_i s' hap
      exact ih s' (hasCol_applyStmt s s' st t c hap hc (hr st List.mem_cons_self)) hrest
    · exact ih s hc hrest

/-- the revision id a `SELECT revision_id` reads (`readRevision`): that of the row, if table and row exist -/
def ridOf : Rev → Option String
  | .row r => r
  | _ => none

theorem ridOf_eq_some {rev : Rev} {id : String} : ridOf rev = some id ↔ rev = .row (some id) := by
  cases rev <;> simp [ridOf]

/-- **closed form of one use of an existing file by the repaired code**: the same whether or not the caller commits
(`c` is not on the right); when no step is outstanding the stamp is left alone -/
theorem session_fixed (tbl : Table) (orm : Schema) (hne : tbl.steps ≠ []) (s : Store) (c : Bool) :
    session Cfg.fixed tbl orm (some s) c =
      let todo := getSteps tbl (ridOf s.rev)
      let r := runStmts s.schema (stmtsOf todo)
      ({ schema := r.1, rev := if todo.isEmpty then s.rev else .row (some (latestId tbl)) }, r.2) := by
  obtain ⟨sch, rev⟩ := s
  have h0 := getSteps_none_isEmpty_false tbl hne
  cases rev with
  | row r =>
    cases h1 : getSteps tbl r <;> cases c <;>
      simp [session, openDatabase, migrate, readRevision, writeRevision, setRow, ridOf, stmtsOf, runStmts,
        Db.work, Db.ddl, Db.dml, Db.commit, Db.close, Cfg.fixed, h1]
  | _ =>
    cases c <;>
      simp [session, openDatabase, migrate, readRevision, initRevisionTable, writeRevision, setRow, ridOf,
        Db.work, Db.ddl, Db.dml, Db.commit, Db.close, Cfg.fixed, h0]

theorem session_fixed_fresh (tbl : Table) (orm : Schema) (c : Bool) :
    session Cfg.fixed tbl orm none c = ({ schema := orm, rev := .row (some (latestId tbl)) }, []) := by
  cases c <;>
    simp [session, openDatabase, writeRevision, initRevisionTable, setRow, Db.work, Db.ddl, Db.dml,
      Db.commit, Db.close, Cfg.fixed]

end AF.Migrate
