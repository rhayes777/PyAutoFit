import AFModel.Grid
import AFProofs.Lemmas.ListFacts

/-! Lemmas for the `Grid` model (property C16): mixed-radix arithmetic and the row-major order of `lattice`,
the cells as a map over the lattice, the chain of points that tiles one dimension in exact (`Rat`) arithmetic and
the bounds of the sensitivity cells over it, `lookup`/`mergeSort` facts for the result collectors, the integer root,
the place of a grid parameter among the grid ids. -/

namespace AF.Grid

/-- pointwise relation between two lists of the same length (core Lean has no `List.Forall₂`) -/
inductive Forall₂ {α β} (R : α → β → Prop) : List α → List β → Prop
  | nil : Forall₂ R [] []
  | cons {a b l₁ l₂} : R a b → Forall₂ R l₁ l₂ → Forall₂ R (a :: l₁) (b :: l₂)

theorem forall₂_iff_getElem {α β} {R : α → β → Prop} (l₁ : List α) (l₂ : List β) :
    Forall₂ R l₁ l₂ ↔
      l₁.length = l₂.length ∧ ∀ i (h1 : i < l₁.length) (h2 : i < l₂.length), R l₁[i] l₂[i] := by
  constructor
  · intro h
    induction h with
    | nil => exact ⟨rfl, fun _ h => absurd h (Nat.not_lt_zero _)⟩
    | cons h _ ih =>
      refine ⟨congrArg (· + 1) ih.1, fun i h1 h2 => ?_⟩
      cases i with
      | zero => exact h
      | succ i => exact ih.2 i (Nat.lt_of_succ_lt_succ h1) (Nat.lt_of_succ_lt_succ h2)
  · rintro ⟨hl, hi⟩
    induction l₁ generalizing l₂ with
    | nil => cases l₂ with
      | nil => exact .nil
      | cons => cases hl
    | cons a l₁ ih => cases l₂ with
      | nil => cases hl
      | cons b l₂ =>
        exact .cons (hi 0 (Nat.zero_lt_succ _) (Nat.zero_lt_succ _))
          (ih l₂ (Nat.succ.inj hl) fun i h1 h2 => hi (i + 1) (Nat.succ_lt_succ h1) (Nat.succ_lt_succ h2))

theorem Forall₂.length_eq {α β} {R : α → β → Prop} {l₁ : List α} {l₂ : List β}
    (h : Forall₂ R l₁ l₂) : l₁.length = l₂.length :=
  ((forall₂_iff_getElem l₁ l₂).mp h).1

theorem forall₂_map_left {α β γ} {R : β → γ → Prop} (f : α → β) (l : List α) (l' : List γ) :
    Forall₂ R (l.map f) l' ↔ Forall₂ (fun a c => R (f a) c) l l' := by
  induction l generalizing l' with
  | nil => exact ⟨fun h => by cases h; exact .nil, fun h => by cases h; exact .nil⟩
  | cons a l ih =>
    exact ⟨fun h => by cases h with | cons h t => exact .cons h ((ih _).mp t),
      fun h => by cases h with | cons h t => exact .cons h ((ih _).mpr t)⟩

theorem exists_getElem_ne {α} (a b : List α) (hl : a.length = b.length) (hne : a ≠ b) :
    ∃ i, ∃ (h1 : i < a.length) (h2 : i < b.length), a[i] ≠ b[i] :=
  Classical.byContradiction fun hc => hne <| List.ext_getElem hl fun i h1 h2 =>
    Classical.byContradiction fun h => hc ⟨i, h1, h2, h⟩

theorem zipWith_fuse {α β γ δ} (f : α → β → γ) (g : α → γ → δ) : ∀ (as : List α) (bs : List β),
    List.zipWith g as (List.zipWith f as bs) = List.zipWith (fun a b => g a (f a b)) as bs
  | [], _ => rfl
  | _ :: _, [] => rfl
  | a :: as, b :: bs => congrArg (g a (f a b) :: ·) (zipWith_fuse f g as bs)

theorem lattice_length : ∀ ns, (lattice ns).length = prod ns
  | [] => rfl
  | n :: ns => by
    simp only [lattice, prod, List.length_flatMap, List.length_map, lattice_length ns,
      List.map_const', List.sum_replicate_nat, List.length_range]

theorem prod_replicate (n : Nat) : ∀ d, prod (List.replicate d n) = n ^ d
  | 0 => rfl
  | d + 1 => by
    simp only [List.replicate_succ, prod, prod_replicate n d, Nat.pow_succ, Nat.mul_comm]

/-! ## mixed radix: `digits` and `index` are inverse bijections -/

theorem digits_length : ∀ ns k, (digits ns k).length = ns.length
  | [], _ => rfl
  | _ :: ns, _ => congrArg (· + 1) (digits_length ns _)

theorem index_digits : ∀ ns k, k < prod ns → index ns (digits ns k) = k := by
  intro ns
  induction ns with
  | nil => exact fun _ h => (Nat.lt_one_iff.mp h).symm
  | cons n ns ih =>
    intro k h
    have hP : 0 < prod ns := Nat.pos_of_lt_mul_left (b := n) h
    simp only [digits, index, ih _ (Nat.mod_lt _ hP)]
    exact Nat.div_add_mod' k (prod ns)

theorem index_lt (ns idx : List Nat) (h : Forall₂ (· < ·) idx ns) : index ns idx < prod ns := by
  induction h with
  | nil => exact Nat.zero_lt_one
  | @cons i n idx ns h _ ih =>
    calc i * prod ns + index ns idx < i * prod ns + prod ns := Nat.add_lt_add_left ih _
      _ = (i + 1) * prod ns := (Nat.succ_mul i _).symm
      _ ≤ n * prod ns := Nat.mul_le_mul_right _ h

theorem digits_index : ∀ ns idx, Forall₂ (· < ·) idx ns → digits ns (index ns idx) = idx := by
  intro ns idx h
  induction h with
  | nil => rfl
  | @cons i n idx ns _ t ih =>
    have hlt := index_lt ns idx t
    have h1 : (i * prod ns + index ns idx) / prod ns = i := by
      rw [Nat.mul_comm, Nat.mul_add_div (Nat.zero_lt_of_lt hlt), Nat.div_eq_of_lt hlt]; rfl
    have h2 : (i * prod ns + index ns idx) % prod ns = index ns idx := by
      rw [Nat.mul_comm, Nat.mul_add_mod, Nat.mod_eq_of_lt hlt]
    simp only [index, digits, h1, h2, ih]

/-! ## the lattice in row-major order -/

theorem lattice_row_major : ∀ ns k, k < prod ns → (lattice ns)[k]? = some (digits ns k) := by
  intro ns
  induction ns with
  | nil => intro k h; rw [Nat.lt_one_iff.mp h]; rfl
  | cons n ns ih =>
    intro k h
    have hP : 0 < prod ns := Nat.pos_of_lt_mul_left (b := n) h
    have hq : k / prod ns < n := (Nat.div_lt_iff_lt_mul hP).mpr h
    have hr : k % prod ns < prod ns := Nat.mod_lt _ hP
    have hb := getElem?_flatten_uniform (prod ns) ((List.range n).map fun a => (lattice ns).map (a :: ·))
      (k / prod ns) (k % prod ns) (fun l hl => by
        obtain ⟨a, -, rfl⟩ := List.mem_map.mp hl
        rw [List.length_map, lattice_length]) hr
    rw [Nat.div_add_mod'] at hb
    simp only [lattice, List.flatMap_def, digits, hb, List.getElem?_range hq, Option.bind_some, List.getElem?_map,
      ih _ hr, Option.map_some]

theorem mem_lattice : ∀ ns idx, idx ∈ lattice ns ↔ Forall₂ (· < ·) idx ns := by
  intro ns
  induction ns with
  | nil =>
    intro idx
    simp only [lattice, List.mem_singleton]
    exact ⟨fun h => by rw [h]; exact .nil, fun h => by cases h; rfl⟩
  | cons n ns ih =>
    intro idx
    simp only [lattice, List.mem_flatMap, List.mem_range, List.mem_map]
    constructor
    · rintro ⟨k, hk, t, ht, rfl⟩
      exact .cons hk ((ih t).mp ht)
    · rintro (_ | ⟨hk, ht⟩)
      exact ⟨_, hk, _, (ih _).mpr ht, rfl⟩

theorem native_entry (ns idx : List Nat) (h : Forall₂ (· < ·) idx ns) :
    (lattice ns)[index ns idx]? = some idx := by
  rw [lattice_row_major ns _ (index_lt ns idx h), digits_index ns idx h]

theorem lattice_nodup (ns : List Nat) : (lattice ns).Nodup := by
  rw [List.Nodup, List.pairwise_iff_getElem]
  intro i j hi hj hij heq
  rw [lattice_length] at hi hj
  obtain ⟨_, ei⟩ := List.getElem?_eq_some_iff.mp (lattice_row_major ns i hi)
  obtain ⟨_, ej⟩ := List.getElem?_eq_some_iff.mp (lattice_row_major ns j hj)
  have e : index ns (digits ns i) = index ns (digits ns j) := by rw [← ei, ← ej, heq]
  rw [index_digits ns i hi, index_digits ns j hj] at e
  exact Nat.ne_of_lt hij e

/-! ## cells -/

theorem map_lattice_length {V α} (dims : List (Dim V)) (g : List Nat → α) :
    ((lattice (counts dims)).map g).length = prod (counts dims) := by
  rw [List.length_map, lattice_length]

theorem map_lattice_row_major {V α} (dims : List (Dim V)) (g : List Nat → α) (k : Nat)
    (hk : k < prod (counts dims)) :
    ((lattice (counts dims)).map g)[k]? = some (g (digits (counts dims) k)) := by
  rw [List.getElem?_map, lattice_row_major _ _ hk]; rfl

theorem cellAt_congr {V α β} (f : Dim V → Nat → α) (g : Dim V → Nat → β) (φ : α → β)
    (dims : List (Dim V)) (idx : List Nat) (h : ∀ d ∈ dims, ∀ k, k < d.count → φ (f d k) = g d k)
    (hi : Forall₂ (· < ·) idx (counts dims)) : (cellAt f dims idx).map φ = cellAt g dims idx := by
  induction dims generalizing idx with
  | nil => cases hi; rfl
  | cons d dims ih =>
    cases hi with
    | cons hk t =>
      exact congr (congrArg List.cons (h d List.mem_cons_self _ hk))
        (ih _ (fun d hd => h d (List.mem_cons_of_mem _ hd)) t)

/-- a function zipped along the dimensions over every row of `make_lists` -/
theorem map_unitLists {V α} (N : Num V) (centre : Bool) (dims : List (Dim V)) (g : Dim V → V → α) :
    (unitLists N centre dims).map (List.zipWith g dims)
      = (lattice (counts dims)).map (cellAt (fun d i => g d (unitValue N centre d i)) dims) := by
  rw [unitLists, List.map_map]
  exact List.map_congr_left fun idx _ => zipWith_fuse ..

theorem countOf_of_integerSteps (cfg : Cfg) (h : cfg.integerSteps = true) (n : Nat) : countOf cfg n = n :=
  if_pos h

theorem counts_gridDims {V} (N : Num V) (cfg : Cfg) (n : Nat) (ranges : List (V × V)) :
    counts (gridDims N cfg n ranges) = List.replicate ranges.length (countOf cfg n) :=
  (List.map_map ..).trans List.map_const'

theorem counts_sensDims {V} (N : Num V) (cfg : Cfg) (dims : List ((V × V) × Nat)) :
    counts (sensDims N cfg dims) = dims.map fun r => countOf cfg r.2 :=
  List.map_map ..

/-! ## the chain of points that tiles one dimension (exact arithmetic) -/

theorem inv_nat_pos (n : Nat) (h : 0 < n) : (0 : Rat) < 1 / (n : Rat) := by
  rw [Rat.div_def, Rat.one_mul]
  exact Rat.inv_pos.mpr (Rat.natCast_pos.mpr h)

theorem inv_nat_nonneg (n : Nat) : (0 : Rat) ≤ 1 / (n : Rat) := by
  rcases Nat.eq_zero_or_pos n with rfl | h
  · simp [Rat.div_def]
  · exact Rat.le_of_lt (inv_nat_pos n h)

/-- the `m`-th lattice value of a dimension with `n` steps: `unitValue ratNum false (mkDim ratNum _ _ _ n) m` -/
def unitPt (n m : Nat) : Rat := 1 / (n : Rat) * (m : Rat)

theorem unitPt_zero (n : Nat) : unitPt n 0 = 0 := Rat.mul_zero _

theorem unitPt_self (n : Nat) (hn : 0 < n) : unitPt n n = 1 :=
  Rat.div_mul_cancel fun h => Nat.ne_of_gt hn (Rat.natCast_eq_zero_iff.mp h)

theorem unitPt_succ (n m : Nat) : unitPt n (m + 1) = unitPt n m + 1 / (n : Rat) := by
  rw [unitPt, Rat.natCast_add, Rat.mul_add, Rat.natCast_ofNat, Rat.mul_one, unitPt]

theorem unitPt_mono (n : Nat) {m m' : Nat} (h : m ≤ m') : unitPt n m ≤ unitPt n m' :=
  Rat.mul_le_mul_of_nonneg_left (Rat.natCast_le_natCast.mpr h) (inv_nat_nonneg n)

theorem unitPt_strict (n : Nat) (hn : 0 < n) {m m' : Nat} (h : m < m') : unitPt n m < unitPt n m' :=
  Rat.mul_lt_mul_of_pos_left (Rat.natCast_lt_natCast.mpr h) (inv_nat_pos n hn)

theorem unitPt_nonneg (n m : Nat) : 0 ≤ unitPt n m :=
  unitPt_zero n ▸ unitPt_mono n (Nat.zero_le m)

theorem unitPt_le_one (n m : Nat) (h : m ≤ n) : unitPt n m ≤ 1 := by
  rcases Nat.eq_zero_or_pos n with rfl | hn
  · rw [Nat.le_zero.mp h, unitPt_zero]; decide
  · exact unitPt_self n hn ▸ unitPt_mono n h

/-- the `m`-th of the `n + 1` equally spaced points of `[lo, hi]` -/
def gridPt (lo hi : Rat) (n m : Nat) : Rat := lo + unitPt n m * (hi - lo)

theorem gridCellDim_fst (cfg : Cfg) (lo hi : Rat) (n k : Nat) :
    (gridCellDim ratNum (mkDim ratNum cfg lo hi n) k).1 = gridPt lo hi n k := rfl

theorem gridCellDim_snd (cfg : Cfg) (lo hi : Rat) (n k : Nat) :
    (gridCellDim ratNum (mkDim ratNum cfg lo hi n) k).2 = gridPt lo hi n (k + 1) := by
  rw [gridPt, unitPt_succ]; rfl

theorem gridPt_zero (lo hi : Rat) (n : Nat) : gridPt lo hi n 0 = lo := by
  rw [gridPt, unitPt_zero, Rat.zero_mul, Rat.add_zero]

theorem gridPt_last (lo hi : Rat) (n : Nat) (hn : 0 < n) : gridPt lo hi n n = hi := by
  rw [gridPt, unitPt_self n hn, Rat.one_mul, Rat.add_comm, Rat.sub_add_cancel]

theorem gridPt_mono (lo hi : Rat) (n : Nat) (hle : lo ≤ hi) {m m' : Nat} (hm : m ≤ m') :
    gridPt lo hi n m ≤ gridPt lo hi n m' :=
  Rat.add_le_add_left.mpr
    (Rat.mul_le_mul_of_nonneg_right (unitPt_mono n hm) ((Rat.le_iff_sub_nonneg lo hi).mp hle))

theorem gridPt_strict (lo hi : Rat) (n : Nat) (hn : 0 < n) (hlt : lo < hi) {m m' : Nat} (hm : m < m') :
    gridPt lo hi n m < gridPt lo hi n m' :=
  Rat.add_lt_add_left.mpr
    (Rat.mul_lt_mul_of_pos_right (unitPt_strict n hn hm) ((Rat.lt_iff_sub_pos lo hi).mp hlt))

theorem chain_cover (f : Nat → Rat) (x : Rat) (h0 : f 0 ≤ x) (n : Nat) (hn : 0 < n) (h1 : x ≤ f n) :
    ∃ k, k < n ∧ f k ≤ x ∧ x ≤ f (k + 1) := by
  induction n with
  | zero => exact absurd hn (Nat.lt_irrefl 0)
  | succ n ih =>
    by_cases h : f n ≤ x
    · exact ⟨n, Nat.lt_succ_self n, h, h1⟩
    · obtain ⟨k, hk, hk'⟩ := ih (Nat.pos_of_ne_zero fun e => h (e ▸ h0)) (Rat.le_of_lt (Rat.not_le.mp h))
      exact ⟨k, Nat.lt_succ_of_lt hk, hk'⟩

/-! ## sensitivity cells (exact layer) -/

theorem max_zero_of_nonneg (a : Rat) (h : 0 ≤ a) :
    (if ratNum.le a (ratNum.ofNat 0) then ratNum.ofNat 0 else a) = a := by
  split
  · rename_i h'; exact Rat.le_antisymm h (of_decide_eq_true h')
  · rfl

theorem min_one_of_le_one (b : Rat) (h : b ≤ 1) :
    (if ratNum.le (ratNum.ofNat 1) b then ratNum.ofNat 1 else b) = b := by
  split
  · rename_i h'; exact Rat.le_antisymm (of_decide_eq_true h') h
  · rfl

/-- `centre ∓ scale·step/2` for `centre = u + step/2` at scale 1, as `sensCellDim` computes them -/
theorem half_step_sub (u s : Rat) : u + 1 / 2 * s - 1 * s / 2 = u := by
  rw [Rat.one_mul, Rat.div_def, Rat.div_def, Rat.one_mul, Rat.mul_comm, Rat.add_sub_cancel]

theorem half_step_add (u s : Rat) : u + 1 / 2 * s + 1 * s / 2 = u + s := by
  rw [Rat.one_mul, Rat.div_def, Rat.div_def, Rat.one_mul, Rat.mul_comm s, Rat.add_assoc, ← Rat.add_mul,
    show (2⁻¹ + 2⁻¹ : Rat) = 1 by decide +kernel, Rat.one_mul]

theorem half_step_mid (lo w u s : Rat) :
    lo + (u + 1 / 2 * s) * w = (lo + u * w + (lo + (u + s) * w)) / 2 := by
  grind

/-- with scale 1 the clamps `max(0, ·)`, `min(1, ·)` of a perturbation cell do nothing -/
theorem sens_lower_upper (cfg : Cfg) (lo hi : Rat) (n k : Nat) (hk : k < n) :
    (sensCellDim ratNum 1 (mkDim ratNum cfg lo hi n) k).lower = gridPt lo hi n k ∧
    (sensCellDim ratNum 1 (mkDim ratNum cfg lo hi n) k).upper = gridPt lo hi n (k + 1) := by
  have ea := half_step_sub (unitPt n k) (1 / (n : Rat))
  have eb := (half_step_add (unitPt n k) (1 / (n : Rat))).trans (unitPt_succ n k).symm
  have ha := unitPt_nonneg n k
  have hb := unitPt_le_one n (k + 1) hk
  rw [← ea] at ha
  rw [← eb] at hb
  exact ⟨congrArg (lo + · * (hi - lo)) ((max_zero_of_nonneg _ ha).trans ea),
    congrArg (lo + · * (hi - lo)) ((min_one_of_le_one _ hb).trans eb)⟩

/-! ## collecting results -/

/-- with distinct keys `lookup` finds exactly the entries of the list -/
theorem lookup_eq_some_iff_mem {β} (l : List (Nat × β)) (k : Nat) (v : β) (hnd : (l.map (·.1)).Nodup) :
    l.lookup k = some v ↔ (k, v) ∈ l := by
  refine ⟨fun h => ?_, fun hm => ?_⟩
  · obtain ⟨l₁, l₂, rfl, _⟩ := List.lookup_eq_some_iff.mp h
    exact List.mem_append_right l₁ List.mem_cons_self
  · induction l with
    | nil => cases hm
    | cons p l ih =>
      simp only [List.map_cons, List.nodup_cons] at hnd
      rw [List.lookup_cons]
      rcases List.mem_cons.mp hm with e | hm
      · rw [← e, beq_self_eq_true]
      · have hne : (k == p.1) = false :=
          beq_false_of_ne fun e => hnd.1 (e ▸ List.mem_map.mpr ⟨(k, v), hm, rfl⟩)
        rw [hne]
        exact ih hnd.2 hm

theorem lookup_reverse_of_nodup {β} (l : List (Nat × β)) (k : Nat) (hnd : (l.map (·.1)).Nodup) :
    l.reverse.lookup k = l.lookup k := by
  have hndr : (l.reverse.map (·.1)).Nodup := by
    rw [List.map_reverse, List.Nodup, List.pairwise_reverse]
    exact hnd.imp Ne.symm
  exact Option.ext fun v => by
    rw [lookup_eq_some_iff_mem _ k v hndr, lookup_eq_some_iff_mem l k v hnd, List.mem_reverse]

theorem lookup_reverse_none {β} (l : List (Nat × β)) (k : Nat) (h : k ∉ l.map (·.1)) :
    l.reverse.lookup k = none := by
  rw [List.lookup_eq_none_iff]
  intro p hp
  exact bne_iff_ne.mpr fun e => h (List.mem_map.mpr ⟨p, List.mem_reverse.mp hp, e.symm⟩)

theorem sampleSummaries_getElem? {R} (total : Nat) (arrivals : List (Nat × R)) (k : Nat)
    (hk : k < total) :
    (sampleSummaries total arrivals)[k]? = some (arrivals.reverse.lookup k) := by
  rw [sampleSummaries, List.getElem?_map, List.getElem?_range hk]; rfl

theorem numLe_trans {R} (a b c : Nat × R) : numLe a b = true → numLe b c = true → numLe a c = true := by
  simp only [numLe, decide_eq_true_eq]; exact Nat.le_trans

theorem numLe_total {R} (a b : Nat × R) : (numLe a b || numLe b a) = true := by
  simp only [numLe, Bool.or_eq_true, decide_eq_true_eq]; exact Nat.le_total _ _

theorem collect_perm {R} (l acc : List (Nat × R)) :
    (l.foldl (fun acc r => (acc ++ [r]).mergeSort numLe) acc).Perm (acc ++ l) := by
  induction l generalizing acc with
  | nil => simp
  | cons r l ih =>
    refine (ih _).trans ?_
    simpa using (List.mergeSort_perm (acc ++ [r]) numLe).append_right l

theorem collectSorted_perm {R} (l : List (Nat × R)) : (collectSorted l).Perm l := by
  simpa [collectSorted] using collect_perm l []

theorem collectSorted_sorted {R} (l : List (Nat × R)) :
    (collectSorted l).Pairwise (fun a b => numLe a b = true) := by
  rcases List.eq_nil_or_concat l with rfl | ⟨init, r, rfl⟩
  · exact .nil
  · simp only [collectSorted, List.concat_eq_append, List.foldl_append, List.foldl_cons, List.foldl_nil]
    exact List.pairwise_mergeSort numLe_trans numLe_total _

/-! ## integer root -/

theorem irootGo_spec (t d fuel s : Nat) (h1 : s ^ d ≤ t) (h2 : t < (s + fuel + 1) ^ d) :
    irootGo t d fuel s ^ d ≤ t ∧ t < (irootGo t d fuel s + 1) ^ d := by
  induction fuel generalizing s with
  | zero => exact ⟨h1, h2⟩
  | succ fuel ih =>
    simp only [irootGo]
    split
    · rename_i hle
      exact ih (s + 1) hle (by rwa [Nat.add_right_comm s 1 fuel])
    · rename_i hgt
      exact ⟨h1, Nat.not_le.mp hgt⟩

theorem iroot_spec (t d : Nat) (hd : 0 < d) : iroot t d ^ d ≤ t ∧ t < (iroot t d + 1) ^ d := by
  refine irootGo_spec t d t 0 ?_ ?_
  · rw [Nat.zero_pow hd]; exact Nat.zero_le _
  · rw [Nat.zero_add]
    exact Nat.lt_of_lt_of_le (Nat.lt_succ_self t) (Nat.le_self_pow (Nat.ne_of_gt hd) (t + 1))

theorem iroot_unique (t d s : Nat) (hd : 0 < d) (h1 : s ^ d ≤ t) (h2 : t < (s + 1) ^ d) :
    iroot t d = s := by
  obtain ⟨g1, g2⟩ := iroot_spec t d hd
  have a := (Nat.pow_lt_pow_iff_left (Nat.ne_of_gt hd)).mp (Nat.lt_of_le_of_lt g1 h2)
  have b := (Nat.pow_lt_pow_iff_left (Nat.ne_of_gt hd)).mp (Nat.lt_of_le_of_lt h1 g2)
  exact Nat.le_antisymm (Nat.le_of_lt_succ a) (Nat.le_of_lt_succ b)

theorem iroot_pow (n d : Nat) (hd : 0 < d) : iroot (n ^ d) d = n :=
  iroot_unique _ d n hd (Nat.le_refl _) (Nat.pow_lt_pow_left (Nat.lt_succ_self n) (Nat.ne_of_gt hd))

/-! ## places -/

theorem idxOf?_of_nodup (l : List Nat) (i id : Nat) (hnd : l.Nodup) (h : l[i]? = some id) :
    l.idxOf? id = some i := by
  obtain ⟨hi, e⟩ := List.getElem?_eq_some_iff.mp h
  exact List.idxOf?_eq_some_iff.mpr ⟨hi, e, fun j hj ej =>
    Nat.ne_of_lt hj ((List.getElem_inj hnd).mp (ej.trans e.symm))⟩

theorem placeOf_not_mem (gridIds : List Nat) (id : Nat) (h : id ∉ gridIds) :
    placeOf gridIds id = .keep id := by
  rw [placeOf, List.idxOf?_eq_none_iff.mpr h]

theorem placeOf_mem (gridIds : List Nat) (i id : Nat) (hnd : gridIds.Nodup)
    (hi : gridIds[i]? = some id) : placeOf gridIds id = .dim i := by
  rw [placeOf, idxOf?_of_nodup gridIds i id hnd hi]

end AF.Grid
