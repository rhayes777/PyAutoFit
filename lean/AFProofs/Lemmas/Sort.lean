import AFProofs.Lemmas.ListFacts

/-! Insertion sort by a decidable relation. The model's plain insertion sorts (`sortById`, `sortByName`,
`sortByT` by abscissa, `sortVW` and `sortR` by value, `sortByLen` by path length, `isort` by a `Bool`-valued
comparison) are each shown to be `sortBy r` by `eq_sortBy`, in the lemma file of their model file; the two
sorts that also drop duplicates (`sortDedup`, `sortedKeys`) are not of this form.
A `Bool`-valued comparison `le` is the relation `fun a b => le a b = true`. Core Lean only. -/

namespace AF

def insertBy {α} (r : α → α → Prop) [DecidableRel r] (x : α) : List α → List α
  | [] => [x]
  | y :: ys => if r x y then x :: y :: ys else y :: insertBy r x ys

def sortBy {α} (r : α → α → Prop) [DecidableRel r] (l : List α) : List α := l.foldr (insertBy r) []

section
variable {α : Type _} (r : α → α → Prop) [DecidableRel r]

/-- the two equations of `insertBy r` determine it … -/
theorem eq_insertBy {ins : α → List α → List α} (i0 : ∀ x, ins x [] = [x])
    (ic : ∀ x y ys, ins x (y :: ys) = if r x y then x :: y :: ys else y :: ins x ys) (x : α) :
    ∀ (l : List α), ins x l = insertBy r x l
  | [] => i0 x
  | y :: ys => by rw [ic, eq_insertBy i0 ic x ys]; rfl

/-- … and a sort that puts the head into the sorted tail by such an insertion is `sortBy r`. This is how the
sort of a model file is recognised: its four equations hold by `rfl`. -/
theorem eq_sortBy {ins : α → List α → List α} {srt : List α → List α} (i0 : ∀ x, ins x [] = [x])
    (ic : ∀ x y ys, ins x (y :: ys) = if r x y then x :: y :: ys else y :: ins x ys)
    (s0 : srt [] = []) (sc : ∀ x l, srt (x :: l) = ins x (srt l)) : ∀ (l : List α), srt l = sortBy r l
  | [] => s0
  | x :: l => by rw [sc, eq_sortBy i0 ic s0 sc l, eq_insertBy r i0 ic]; rfl

theorem perm_insertBy (x : α) : ∀ (l : List α), (insertBy r x l).Perm (x :: l)
  | [] => .refl _
  | y :: ys => by
    unfold insertBy
    split
    · exact .refl _
    · exact ((perm_insertBy x ys).cons y).trans (.swap x y ys)

theorem perm_sortBy : ∀ (l : List α), (sortBy r l).Perm l
  | [] => .refl _
  | x :: xs => (perm_insertBy r x _).trans ((perm_sortBy xs).cons x)

theorem sorted_insertBy (htot : ∀ a b, r a b ∨ r b a) (htr : ∀ a b c, r a b → r b c → r a c) (x : α) :
    ∀ (l : List α), l.Pairwise r → (insertBy r x l).Pairwise r
  | [], _ => List.pairwise_singleton r x
  | y :: ys, h => by
    have hy := List.pairwise_cons.mp h
    unfold insertBy
    split
    · rename_i hxy
      exact List.pairwise_cons.mpr ⟨fun z hz => (List.mem_cons.mp hz).elim (· ▸ hxy) (htr _ _ _ hxy <| hy.1 z ·), h⟩
    · rename_i hxy
      refine List.pairwise_cons.mpr ⟨fun z hz => ?_, sorted_insertBy htot htr x ys hy.2⟩
      rcases List.mem_cons.mp ((perm_insertBy r x ys).mem_iff.mp hz) with rfl | hz
      · exact (htot z y).resolve_left hxy
      · exact hy.1 z hz

theorem sorted_sortBy (htot : ∀ a b, r a b ∨ r b a) (htr : ∀ a b c, r a b → r b c → r a c) :
    ∀ (l : List α), (sortBy r l).Pairwise r
  | [] => .nil
  | x :: xs => sorted_insertBy r htot htr x _ (sorted_sortBy htot htr xs)

/-- a sorted list is a fixed point -/
theorem sortBy_of_sorted : ∀ (l : List α), l.Pairwise r → sortBy r l = l
  | [], _ => rfl
  | x :: xs, h => by
    have hx := List.pairwise_cons.mp h
    show insertBy r x (sortBy r xs) = x :: xs
    rw [sortBy_of_sorted xs hx.2]
    cases xs with
    | nil => rfl
    | cons y ys => exact if_pos (hx.1 y (List.mem_cons_self ..))

/-- the sorted list is a function of the multiset when the order is antisymmetric on the elements: two
sorted rearrangements of the same elements are equal -/
theorem sortBy_eq_of_perm (htot : ∀ a b, r a b ∨ r b a) (htr : ∀ a b c, r a b → r b c → r a c)
    {l₁ l₂ : List α} (hanti : ∀ a ∈ l₁, ∀ b ∈ l₁, r a b → r b a → a = b) (hp : l₁.Perm l₂) :
    sortBy r l₁ = sortBy r l₂ :=
  List.Perm.eq_of_pairwise
    (fun a b ha hb => hanti a ((perm_sortBy r l₁).mem_iff.mp ha) b
      (hp.mem_iff.mpr ((perm_sortBy r l₂).mem_iff.mp hb)))
    (sorted_sortBy r htot htr l₁) (sorted_sortBy r htot htr l₂)
    ((perm_sortBy r l₁).trans (hp.trans (perm_sortBy r l₂).symm))

end

/-- … in particular when the order compares keys that are pairwise different in the list -/
theorem sortBy_eq_of_perm_of_nodup {α : Type _} {κ : Type _} (r : α → α → Prop) [DecidableRel r] (key : α → κ)
    (htot : ∀ a b, r a b ∨ r b a) (htr : ∀ a b c, r a b → r b c → r a c)
    (hanti : ∀ a b, r a b → r b a → key a = key b)
    {l₁ l₂ : List α} (hp : l₁.Perm l₂) (hnd : (l₁.map key).Nodup) : sortBy r l₁ = sortBy r l₂ :=
  sortBy_eq_of_perm r htot htr (fun a ha b hb hab hba => eq_of_nodup_map key hnd ha hb (hanti a b hab hba)) hp

end AF
