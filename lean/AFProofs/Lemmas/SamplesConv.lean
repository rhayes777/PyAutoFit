import AFModel.SamplesConv
import AFProofs.Lemmas.Comp

/-! Lemmas for C05 (`AFModel/SamplesConv.lean`): `Sample.from_lists` as a zip, slicing commutes with `map`,
the keyed round trip of a sample's values. Core Lean only. -/

namespace AF.Samples

variable {V : Type}

/-! ## lists -/

theorem length_le_flatten {α} : ∀ (l : List (List α)), (∀ x ∈ l, x ≠ []) → l.length ≤ l.flatten.length
  | [], _ => Nat.le_refl _
  | x :: l, h => by
    rw [List.flatten_cons, List.length_append, List.length_cons, Nat.add_comm x.length]
    exact Nat.add_le_add (length_le_flatten l fun y hy => h y (List.mem_cons_of_mem _ hy))
      (List.length_pos_iff.2 (h x List.mem_cons_self))

theorem range_map_getElem?_join {α} (l : List (Option α)) :
    (List.range l.length).map (fun j => (l[j]?).join) = l :=
  (map_range_getElem? l Option.join).trans (List.map_id l)

/-! ## `fromLists` is the four-way zip -/

theorem fromLists_eq_zip : ∀ (ps : List (List V)) (ls qs ws : List V),
    fromLists ps ls qs ws = ((ps.zip ls).zip (qs.zip ws)).map (fun x => ⟨x.1.1, x.1.2, x.2.1, x.2.2⟩)
  | [], _, _, _ => rfl
  | _ :: _, [], _, _ => rfl
  | _ :: _, _ :: _, [], _ => rfl
  | _ :: _, _ :: _, _ :: _, [] => rfl
  | _ :: ps, _ :: ls, _ :: qs, _ :: ws => congrArg (List.cons _) (fromLists_eq_zip ps ls qs ws)

theorem fromLists_map_map (f g : List V → V) : ∀ (ps : List (List V)) (ws : List V),
    fromLists ps (ps.map f) (ps.map g) ws = (ps.zip ws).map (fun x => ⟨x.1, f x.1, g x.1, x.2⟩)
  | [], _ => rfl
  | _ :: _, [] => rfl
  | _ :: ps, _ :: ws => congrArg (List.cons _) (fromLists_map_map f g ps ws)

theorem fromLists_map (f g h : List V → V) : ∀ (rows : List (List V)),
    fromLists rows (rows.map f) (rows.map g) (rows.map h) = rows.map (fun r => ⟨r, f r, g r, h r⟩)
  | [] => rfl
  | _ :: rows => congrArg (List.cons _) (fromLists_map f g h rows)

theorem mem_fromLists {ps : List (List V)} {ls qs ws : List V} {s : Sample V} (h : s ∈ fromLists ps ls qs ws) :
    s.params ∈ ps ∧ s.ll ∈ ls ∧ s.lp ∈ qs ∧ s.w ∈ ws := by
  rw [fromLists_eq_zip] at h
  obtain ⟨⟨⟨p, l⟩, q, w⟩, hx, rfl⟩ := List.mem_map.1 h
  have ⟨h1, h2⟩ := List.of_mem_zip hx
  exact ⟨(List.of_mem_zip h1).1, (List.of_mem_zip h1).2, (List.of_mem_zip h2).1, (List.of_mem_zip h2).2⟩

theorem map_params_fromLists (ps : List (List V)) (ls qs ws : List V) (h1 : ps.length ≤ ls.length)
    (h2 : ps.length ≤ qs.length) (h3 : ps.length ≤ ws.length) : (fromLists ps ls qs ws).map (·.params) = ps := by
  rw [fromLists_eq_zip, List.map_map]
  show ((ps.zip ls).zip (qs.zip ws)).map (Prod.fst ∘ Prod.fst) = ps
  have hz : (ps.zip ls).length ≤ (qs.zip ws).length := by
    rw [List.length_zip, List.length_zip, Nat.min_eq_left h1]
    exact Nat.le_min.2 ⟨h2, h3⟩
  rw [← List.map_map, List.map_fst_zip hz, List.map_fst_zip h1]

theorem map_w_fromLists (ps : List (List V)) (ls qs ws : List V) (h1 : ws.length ≤ ps.length)
    (h2 : ws.length ≤ ls.length) (h3 : ws.length ≤ qs.length) : (fromLists ps ls qs ws).map (·.w) = ws := by
  rw [fromLists_eq_zip, List.map_map]
  show ((ps.zip ls).zip (qs.zip ws)).map (Prod.snd ∘ Prod.snd) = ws
  have hz : (qs.zip ws).length ≤ (ps.zip ls).length := by
    rw [List.length_zip, List.length_zip, Nat.min_eq_right h3]
    exact Nat.le_min.2 ⟨h1, h2⟩
  rw [← List.map_map, List.map_snd_zip hz, List.map_snd_zip h3]

/-- the likelihood column is `posterior − prior` (pyswarms, whose three columns differ in length) -/
theorem map_post_fromLists_prefix (o : SOps V) (hadd : ∀ a b, o.add (o.sub a b) b = a) :
    ∀ (ps : List (List V)) (posts lps ws : List V),
      (fromLists ps (subZip o posts lps) lps ws).map (·.post o) <+: posts
  | [], _, _, _ => List.nil_prefix
  | _ :: _, [], _, _ => List.nil_prefix
  | _ :: _, _ :: _, [], _ => List.nil_prefix
  | _ :: _, _ :: _, _ :: _, [] => List.nil_prefix
  | _ :: ps, p :: posts, q :: lps, _ :: ws => by
    show o.add (o.sub p q) q :: _ <+: _
    rw [hadd]
    exact List.cons_prefix_cons.2 ⟨rfl, map_post_fromLists_prefix o hadd ps posts lps ws⟩

/-- what Dynesty, Nautilus and UltraNest report under their contract -/
theorem fromLists_rows (L prior : List V → V) (rows : List (List V)) (ws : List V) :
    (∀ s ∈ fromLists rows (rows.map L) (rows.map prior) ws,
      (s.ll = L s.params ∧ s.lp = prior s.params) ∧ s.params ∈ rows) ∧
    (ws.length = rows.length → (fromLists rows (rows.map L) (rows.map prior) ws).map (·.params) = rows) := by
  rw [fromLists_map_map, List.map_map]
  refine ⟨fun s hs => ?_, fun hl => List.map_fst_zip (Nat.le_of_eq hl.symm)⟩
  obtain ⟨⟨r, w⟩, hx, rfl⟩ := List.mem_map.1 hs
  exact ⟨⟨rfl, rfl⟩, (List.of_mem_zip hx).1⟩

/-- the same for the MCMC conversions, once they are a `map` over the rows -/
theorem mem_map_rows (L prior : List V → V) (w : V) {rows : List (List V)} {s : Sample V}
    (hs : s ∈ rows.map (fun r => ⟨r, L r, prior r, w⟩)) :
    (s.ll = L s.params ∧ s.lp = prior s.params) ∧ s.params ∈ rows := by
  obtain ⟨r, hr, rfl⟩ := List.mem_map.1 hs
  exact ⟨⟨rfl, rfl⟩, hr⟩

theorem subZip_map (o : SOps V) (f g : List V → V) (rows : List (List V)) :
    subZip o (rows.map f) (rows.map g) = rows.map (fun r => o.sub (f r) (g r)) := by
  rw [subZip, List.zipWith_map, List.zipWith_self]

theorem ones_length_map {α β} (o : SOps V) (f : α → β) (rows : List α) :
    ones o (rows.map f).length = rows.map (fun _ => o.one) := by
  rw [ones, List.length_map, List.map_const']

/-- the body shared by `emceeConv`, `zeusConv` and `drawerConv` under their contract -/
theorem conv_of_posts (o : SOps V) (L prior : List V → V) (hsub : ∀ a b, o.sub (o.add a b) b = a)
    (rows : List (List V)) :
    (let lps := rows.map prior
     let lls := subZip o (rows.map (fun r => o.add (L r) (prior r))) lps
     fromLists rows lls lps (ones o lls.length)) = rows.map (fun r => ⟨r, L r, prior r, o.one⟩) := by
  simp only [subZip_map, hsub, ones_length_map]
  exact fromLists_map L prior (fun _ => o.one) rows

theorem dynestyConv_eq_some {o : SOps V} {prior : List V → V} {samples : List (List V)} {logl logwt logz : List V}
    {ss : List (Sample V)} (h : dynestyConv o prior samples logl logwt logz = some ss) :
    ∃ z, logz.getLast? = some z ∧
      ss = fromLists samples logl (samples.map prior) (logwt.map (fun x => o.exp (o.sub x z))) := by
  unfold dynestyConv at h
  split at h
  · cases h
  · next z hz => exact ⟨z, hz, (Option.some.inj h).symm⟩

/-! ## Python slices `l[start::step]` -/

theorem everyNthAux_map {α β} (f : α → β) (k : Nat) : ∀ (c : Nat) (l : List α),
    everyNthAux k c (l.map f) = (everyNthAux k c l).map f
  | 0, [] => rfl
  | _ + 1, [] => rfl
  | 0, _ :: xs => congrArg (List.cons _) (everyNthAux_map f k (k - 1) xs)
  | c + 1, _ :: xs => everyNthAux_map f k c xs

theorem everyNthAux_sublist {α} (k : Nat) : ∀ (c : Nat) (l : List α), (everyNthAux k c l).Sublist l
  | 0, [] => .slnil
  | _ + 1, [] => .slnil
  | 0, _ :: xs => (everyNthAux_sublist k (k - 1) xs).cons_cons _
  | c + 1, _ :: xs => (everyNthAux_sublist k c xs).cons _

theorem pySliceStep_map {α β} (f : α → β) (start step : Nat) (l : List α) :
    pySliceStep start step (l.map f) = (pySliceStep start step l).map f := by
  rw [pySliceStep, ← List.map_drop, everyNthAux_map]
  rfl

theorem pySliceStep_sublist {α} (start step : Nat) (l : List α) : (pySliceStep start step l).Sublist l :=
  (everyNthAux_sublist step 0 _).trans (List.drop_sublist _ l)

/-! ## the keyed round trip `vector → kwargs → vector` -/

variable {K : Type} [DecidableEq K]

theorem kwGet_zip_some {keys : List K} {params : List V} {k : K} {v : V}
    (h : kwGet (keys.zip params) k = some v) : ∃ j : Nat, keys[j]? = some k ∧ params[j]? = some v := by
  obtain ⟨⟨k', v'⟩, he, rfl⟩ := Option.map_eq_some_iff.1 h
  obtain rfl : k' = k := by simpa using List.find?_some he
  obtain ⟨j, hj⟩ := List.getElem?_of_mem (List.mem_of_find?_eq_some he)
  exact ⟨j, List.getElem?_zip_eq_some.1 hj⟩

theorem kwGet_zip_of_mem {keys : List K} {params : List V} {k : K} (hl : keys.length ≤ params.length)
    (hm : k ∈ keys) : (kwGet (keys.zip params) k).isSome := by
  obtain ⟨j, hj⟩ := List.getElem?_of_mem hm
  have hjp : j < params.length := Nat.lt_of_lt_of_le (List.getElem?_eq_some_iff.1 hj).1 hl
  have hz : (k, params[j]) ∈ keys.zip params :=
    List.mem_of_getElem? (List.getElem?_zip_eq_some.2 ⟨hj, List.getElem?_eq_getElem hjp⟩)
  rw [kwGet, Option.isSome_map]
  exact List.find?_isSome.2 ⟨_, hz, decide_eq_true rfl⟩

theorem firstFound_eq_findSome? (kw : List (K × V)) : ∀ (g : List K), firstFound kw g = g.findSome? (kwGet kw)
  | [] => rfl
  | k :: g => by
    rw [firstFound, List.findSome?_cons, firstFound_eq_findSome? kw g]
    cases kwGet kw k <;> rfl

theorem paramsForPaths_of_forall (kw : List (K × V)) : ∀ (groups : List (List K)) (params : List V),
    groups.length = params.length →
    (∀ (i : Nat) (g : List K) (p : V), groups[i]? = some g → params[i]? = some p → firstFound kw g = some p) →
    paramsForPaths kw groups = some params
  | [], [], _, _ => rfl
  | [], _ :: _, h, _ => nomatch h
  | _ :: _, [], h, _ => nomatch h
  | g :: groups, p :: params, hl, h => by
    rw [paramsForPaths, h 0 g p rfl rfl, paramsForPaths_of_forall kw groups params (Nat.succ.inj hl)
      (fun i => h (i + 1))]

/-- the keys address every parameter exactly once: key `i` is one of the places of group `i` and of no
other group -/
structure KeysOK (keys : List K) (groups : List (List K)) : Prop where
  len : keys.length = groups.length
  own : ∀ (i : Nat) (k : K) (g : List K), keys[i]? = some k → groups[i]? = some g → k ∈ g
  other : ∀ (i j : Nat) (k : K) (g : List K), keys[j]? = some k → groups[i]? = some g → k ∈ g → i = j

theorem kwargs_roundtrip (keys : List K) (groups : List (List K)) (params : List V)
    (hk : KeysOK keys groups) (hl : params.length = keys.length) :
    paramsForPaths (kwargsOf keys params) groups = some params := by
  refine paramsForPaths_of_forall _ _ _ (hk.len ▸ hl.symm) (fun i g p hg hp => ?_)
  have hi : i < keys.length := hl ▸ (List.getElem?_eq_some_iff.1 hp).1
  have hki : keys[i]? = some keys[i] := List.getElem?_eq_getElem hi
  rw [firstFound_eq_findSome?]
  refine findSome?_const (fun k hkg v hv => ?_) ⟨keys[i], hk.own i _ g hki hg, kwGet_zip_of_mem (Nat.le_of_eq hl.symm)
    (List.getElem_mem hi)⟩
  obtain ⟨j, hj, hjv⟩ := kwGet_zip_some hv
  rw [hk.other i j k g hj hg hkg, hjv] at hp
  exact Option.some.inj hp

omit [DecidableEq K] in
theorem keysOK_map {ι : Type} (ids : List ι) (key : ι → K) (group : ι → List K) (hids : ids.Nodup)
    (hown : ∀ id ∈ ids, key id ∈ group id)
    (hother : ∀ id ∈ ids, ∀ id' ∈ ids, key id' ∈ group id → id = id') :
    KeysOK (ids.map key) (ids.map group) := by
  have at_map : ∀ {β : Type} (f : ι → β) (i : Nat) (b : β), (ids.map f)[i]? = some b →
      ∃ id, ids[i]? = some id ∧ f id = b := fun f i b h => by
    rw [List.getElem?_map] at h
    exact Option.map_eq_some_iff.1 h
  refine ⟨by simp, fun i k g hk hg => ?_, fun i j k g hk hg hm => ?_⟩
  · obtain ⟨id, h1, rfl⟩ := at_map key i k hk
    obtain ⟨id', h2, rfl⟩ := at_map group i g hg
    obtain rfl : id = id' := Option.some.inj (h1.symm.trans h2)
    exact hown id (List.mem_of_getElem? h1)
  · obtain ⟨idj, h1, rfl⟩ := at_map key j k hk
    obtain ⟨idi, h2, rfl⟩ := at_map group i g hg
    obtain rfl := hother idi (List.mem_of_getElem? h2) idj (List.mem_of_getElem? h1) hm
    exact (List.getElem?_inj (List.getElem?_eq_some_iff.1 h2).1 hids).1 (h2.trans h1.symm)

/-! ## the keys of a composition satisfy `KeysOK` -/

theorem mem_placesOf (w : List (Path × Nat)) (id : Nat) (p : Path) : p ∈ placesOf w id ↔ (p, id) ∈ w := by
  simp only [placesOf, List.mem_map, List.mem_filter, beq_iff_eq]
  constructor
  · rintro ⟨⟨q, i⟩, ⟨hm, rfl⟩, rfl⟩
    exact hm
  · intro h
    exact ⟨(p, id), ⟨h, rfl⟩, rfl⟩

/-- the sample keys `unique_prior_paths` and the groups `all_paths`, when every place of the composition is
visited once (attribute names are dictionary keys) -/
theorem keysOK_of_distinct_places {V : Type} (t : Node V) (hnd : ((walk t).map (·.1)).Nodup) :
    KeysOK (uniquePaths t) (allPaths t) := by
  have hperm : (pathPriors t).Perm (walk t) := perm_sortById _
  rw [uniquePaths_eq_map]
  refine keysOK_map _ _ _ (nodup_uniqueIds t) (fun id hid => ?_) (fun id hid id' hid' hm => ?_)
  · obtain ⟨p, hp, hm⟩ := lastPlace_of_counted t id hid
    rw [hp]
    exact (mem_placesOf _ _ _).2 (hperm.mem_iff.2 hm)
  · obtain ⟨p, hp, hm'⟩ := lastPlace_of_counted t id' hid'
    rw [hp] at hm
    exact (Prod.mk.inj (eq_of_nodup_map (·.1) hnd (hperm.mem_iff.1 ((mem_placesOf _ _ _).1 hm)) hm' rfl)).2

theorem vectorOfSample_of_keysOK {V : Type} (t : Node V) (s : Sample V) (hK : KeysOK (uniquePaths t) (allPaths t))
    (hl : s.params.length = count t) : vectorOfSample t s = some s.params :=
  kwargs_roundtrip _ _ _ hK (by rw [hl, hK.len, allPaths, List.length_map, count])

theorem bestInstance_of_keysOK {V : Type} [Inhabited V] (ops : Ops V) (o : SOps V) (t : Node V)
    (ss : List (Sample V)) (b : Sample V) (hK : KeysOK (uniquePaths t) (allPaths t)) (hb : maxSample o ss = some b)
    (hl : b.params.length = count t) : bestInstance ops o t ss = some (instFromVector ops t b.params) := by
  simp only [bestInstance, hb, vectorOfSample_of_keysOK t b hK hl, Option.map_some]

/-- the guard the driver evaluates -/
theorem keysOK_spec {V : Type} (t : Node V) (h : keysOK t = true) : KeysOK (uniquePaths t) (allPaths t) := by
  obtain ⟨hlen, hall⟩ := Bool.and_eq_true_iff.1 h
  have hlen : (uniquePaths t).length = (allPaths t).length := eq_of_beq hlen
  have cell : ∀ (i j : Nat) (k : Path) (g : List Path), (uniquePaths t)[j]? = some k → (allPaths t)[i]? = some g →
      (if i == j then g.contains k else !(g.contains k)) = true := by
    intro i j k g hk hg
    have := List.all_eq_true.1 (List.all_eq_true.1 hall i
      (List.mem_range.2 (hlen ▸ (List.getElem?_eq_some_iff.1 hg).1))) j
      (List.mem_range.2 (List.getElem?_eq_some_iff.1 hk).1)
    rwa [hk, hg] at this
  refine ⟨hlen, fun i k g hk hg => ?_, fun i j k g hk hg hmem => ?_⟩
  · simpa using cell i i k g hk hg
  · have := cell i j k g hk hg
    by_cases hij : i = j
    · exact hij
    · simp [hij, hmem] at this

end AF.Samples
