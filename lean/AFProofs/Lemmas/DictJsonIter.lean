import AFProofs.Lemmas.DictJson

/-! Renaming by the identity (pickle) and composed renamings (repeated dictionary round trips); the reload names
are stable (C08). -/

namespace AF

variable {V : Type}

theorem renamePN_id_all :
    (∀ n : PN V, renamePN (fun i => i) n = n) ∧
    (∀ attrs : List (String × PN V), renamePNAttrs (fun i => i) attrs = attrs) ∧
    (∀ l : List (PN V), renamePNList (fun i => i) l = l) := by
  apply PN.induct <;> intros <;> simp only [renamePN, renamePNAttrs, renamePNList, *]

theorem renamePN_id : ∀ (n : PN V), renamePN (fun i => i) n = n := renamePN_id_all.1
theorem renamePNAttrs_id : ∀ (attrs : List (String × PN V)), renamePNAttrs (fun i => i) attrs = attrs := renamePN_id_all.2.1
theorem renamePNList_id : ∀ (l : List (PN V)), renamePNList (fun i => i) l = l := renamePN_id_all.2.2

theorem renamePN_comp_all (σ τ : Nat → Nat) :
    (∀ n : PN V, renamePN τ (renamePN σ n) = renamePN (fun i => τ (σ i)) n) ∧
    (∀ attrs : List (String × PN V), renamePNAttrs τ (renamePNAttrs σ attrs) = renamePNAttrs (fun i => τ (σ i)) attrs) ∧
    (∀ l : List (PN V), renamePNList τ (renamePNList σ l) = renamePNList (fun i => τ (σ i)) l) := by
  apply PN.induct <;> intros <;> simp only [renamePN, renamePNAttrs, renamePNList, *]

theorem renamePN_comp (σ τ : Nat → Nat) : ∀ (n : PN V),
    renamePN τ (renamePN σ n) = renamePN (fun i => τ (σ i)) n := (renamePN_comp_all σ τ).1
theorem renamePNAttrs_comp (σ τ : Nat → Nat) : ∀ (attrs : List (String × PN V)),
    renamePNAttrs τ (renamePNAttrs σ attrs) = renamePNAttrs (fun i => τ (σ i)) attrs := (renamePN_comp_all σ τ).2.1
theorem renamePNList_comp (σ τ : Nat → Nat) : ∀ (l : List (PN V)),
    renamePNList τ (renamePNList σ l) = renamePNList (fun i => τ (σ i)) l := (renamePN_comp_all σ τ).2.2

theorem pnLoadOrder_rename_all (σ : Nat → Nat) :
    (∀ n : PN V, pnLoadOrder (renamePN σ n) = (pnLoadOrder n).map σ) ∧
    (∀ attrs : List (String × PN V), pnLoadOrderAttrs (renamePNAttrs σ attrs) = (pnLoadOrderAttrs attrs).map σ) ∧
    (∀ l : List (PN V), pnLoadOrderList (renamePNList σ l) = (pnLoadOrderList l).map σ) := by
  apply PN.induct <;> intros <;>
    simp only [renamePN, renamePNAttrs, renamePNList, pnLoadOrder, pnLoadOrderAttrs, pnLoadOrderList, List.map_append,
      List.map_cons, List.map_nil, *]

theorem pnLoadOrder_rename (σ : Nat → Nat) : ∀ (n : PN V),
    pnLoadOrder (renamePN σ n) = (pnLoadOrder n).map σ := (pnLoadOrder_rename_all σ).1
theorem pnLoadOrderAttrs_rename (σ : Nat → Nat) : ∀ (attrs : List (String × PN V)),
    pnLoadOrderAttrs (renamePNAttrs σ attrs) = (pnLoadOrderAttrs attrs).map σ := (pnLoadOrder_rename_all σ).2.1
theorem pnLoadOrderList_rename (σ : Nat → Nat) : ∀ (l : List (PN V)),
    pnLoadOrderList (renamePNList σ l) = (pnLoadOrderList l).map σ := (pnLoadOrder_rename_all σ).2.2

theorem canonPN_idem_all (dflt : String → List (String × Scal V)) :
    (∀ n : PN V, canonPN dflt (canonPN dflt n) = canonPN dflt n) ∧
    (∀ attrs : List (String × PN V), canonPNAttrs dflt (canonPNAttrs dflt attrs) = canonPNAttrs dflt attrs) ∧
    (∀ l : List (PN V), canonPNList dflt (canonPNList dflt l) = canonPNList dflt l) := by
  apply PN.induct
  case inst => intro _ _ ha; simp only [canonPN, canonPNAttrs_fillDefaults dflt _ _ ha, fillDefaults_idem]
  all_goals intros; simp only [canonPN, canonPNAttrs, canonPNList, *]

theorem canonPN_idem (dflt : String → List (String × Scal V)) : ∀ (n : PN V),
    canonPN dflt (canonPN dflt n) = canonPN dflt n := (canonPN_idem_all dflt).1
theorem canonPNAttrs_idem (dflt : String → List (String × Scal V)) : ∀ (attrs : List (String × PN V)),
    canonPNAttrs dflt (canonPNAttrs dflt attrs) = canonPNAttrs dflt attrs := (canonPN_idem_all dflt).2.1
theorem canonPNList_idem (dflt : String → List (String × Scal V)) : ∀ (l : List (PN V)),
    canonPNList dflt (canonPNList dflt l) = canonPNList dflt l := (canonPN_idem_all dflt).2.2

theorem canonPN_rename_all (dflt : String → List (String × Scal V)) (σ : Nat → Nat) :
    (∀ n : PN V, InjOn σ (pnLoadOrder n) → canonPN dflt (renamePN σ n) = renamePN σ (canonPN dflt n)) ∧
    (∀ attrs : List (String × PN V), InjOn σ (pnLoadOrderAttrs attrs) →
      canonPNAttrs dflt (renamePNAttrs σ attrs) = renamePNAttrs σ (canonPNAttrs dflt attrs)) ∧
    (∀ l : List (PN V), InjOn σ (pnLoadOrderList l) →
      canonPNList dflt (renamePNList σ l) = renamePNList σ (canonPNList dflt l)) := by
  apply PN.induct
  case arith =>
    intro _ _ _ l r hl hr h
    simp only [canonPN, renamePN, hl h.append.1, hr h.append.2]
    rw [reloadLeftName_rename]
    intro i j hi hj
    rw [priorId?_canonPN] at hi hj
    exact h i (List.mem_append_left _ (mem_pnLoadOrder_of_priorId? hi)) j
      (List.mem_append_right _ (mem_pnLoadOrder_of_priorId? hj))
  case model | coll => intro _ _ _ ha hb h; simp only [canonPN, renamePN, ha h.append.1, hb h.append.2]
  case both => intro _ _ hx hy h; simp only [canonPN, renamePN, hx h.append.1, hy h.append.2]
  case consA => intro _ _ _ hn hr h; simp only [canonPNAttrs, renamePNAttrs, hn h.append.1, hr h.append.2]
  case consL => intro _ _ hn hr h; simp only [canonPNList, renamePNList, hn h.append.1, hr h.append.2]
  case inst => intro _ _ ha h; simp only [canonPN, renamePN, ha h, fillDefaults_rename]
  case tuple => intro _ ha h; simp only [canonPN, renamePN, ha h]
  case modif => intro _ _ _ hx h; simp only [canonPN, renamePN, hx h]
  case array | list => intro _ _ ha h; simp only [canonPN, renamePN, ha h]
  all_goals intros; rfl

theorem canonPN_rename (dflt : String → List (String × Scal V)) (σ : Nat → Nat) : ∀ (n : PN V),
    InjOn σ (pnLoadOrder n) → canonPN dflt (renamePN σ n) = renamePN σ (canonPN dflt n) := (canonPN_rename_all dflt σ).1
theorem canonPNAttrs_rename (dflt : String → List (String × Scal V)) (σ : Nat → Nat) :
    ∀ (attrs : List (String × PN V)),
    InjOn σ (pnLoadOrderAttrs attrs) → canonPNAttrs dflt (renamePNAttrs σ attrs) = renamePNAttrs σ (canonPNAttrs dflt attrs) :=
  (canonPN_rename_all dflt σ).2.1
theorem canonPNList_rename (dflt : String → List (String × Scal V)) (σ : Nat → Nat) :
    ∀ (l : List (PN V)),
    InjOn σ (pnLoadOrderList l) → canonPNList dflt (renamePNList σ l) = renamePNList σ (canonPNList dflt l) :=
  (canonPN_rename_all dflt σ).2.2

end AF
