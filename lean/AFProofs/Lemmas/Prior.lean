import AFModel.Prior
import AFModel.PriorFloat

/-!
For `AFProofs/C02.lean`. `Lawful S`: exactly the laws of the special functions that the theorems use, true of the
real `Φ, Φ⁻¹, exp, log, 10^x, log10`; `ratSpecial` shows that they can be met. `WF p`: the parameter conditions
the prior constructors enforce. Every prior is a list of transforms around a base normal message, and for any
list whose linear shifts have a positive scale `invAll` is non-decreasing and undone by `fwdAll`.
The ordered field is core Lean's (`Lean.Grind.Field`, `OrderedRing` with `Std.IsLinearOrder`): no Mathlib here.
-/

open Lean Grind

namespace AF.Prior

section Order
variable {K : Type} [Field K] [LE K] [LT K] [Std.IsLinearOrder K] [Std.LawfulOrderLT K] [OrderedRing K]

theorem mul_le_mul_of_nonneg_left (a b c : K) (hc : 0 ≤ c) (h : a ≤ b) : c * a ≤ c * b :=
  OrderedRing.mul_le_mul_of_nonneg_left h hc

theorem mul_le_mul_of_nonneg_right (a b c : K) (hc : 0 ≤ c) (h : a ≤ b) : a * c ≤ b * c :=
  OrderedRing.mul_le_mul_of_nonneg_right h hc

theorem lt_div_iff (a b : K) {c : K} (hc : 0 < c) : a < b / c ↔ a * c < b := by
  rw [Field.div_eq_mul_inv]
  exact Field.IsOrdered.lt_mul_inv_iff_mul_lt a b hc

theorem div_lt_iff (a b : K) {c : K} (hc : 0 < c) : a / c < b ↔ a < b * c := by
  rw [Field.div_eq_mul_inv]
  exact Field.IsOrdered.mul_inv_lt_iff_lt_mul a b hc

theorem le_div_iff (a b : K) {c : K} (hc : 0 < c) : a ≤ b / c ↔ a * c ≤ b := by
  rw [Field.div_eq_mul_inv]
  exact Field.IsOrdered.le_mul_inv_iff_mul_le a b hc

theorem div_le_iff (a b : K) {c : K} (hc : 0 < c) : a / c ≤ b ↔ a ≤ b * c := by
  rw [← Std.not_lt, lt_div_iff b a hc, Std.not_lt]

theorem one_div_pos (t : K) (h : 0 < t) : 0 < 1 / t :=
  (lt_div_iff 0 1 h).mpr (by rw [Semiring.zero_mul]; exact OrderedRing.zero_lt_one)

theorem div_le_div_right (a b c : K) (hc : 0 < c) (h : a ≤ b) : a / c ≤ b / c :=
  (div_le_iff a _ hc).mpr (by rwa [Field.div_mul_cancel (Std.ne_of_lt hc).symm])

theorem one_div_anti (a b : K) (ha : 0 < a) (h : a ≤ b) : 1 / b ≤ 1 / a := by
  rw [div_le_iff _ _ (Std.lt_of_lt_of_le ha h), Field.div_mul, le_div_iff _ _ ha, Semiring.one_mul,
    Semiring.one_mul]
  exact h

omit [Field K] [OrderedRing K] in
/-- a left inverse `g` of a non-decreasing `f` is strictly increasing wherever it is a left inverse -/
theorem strictMono_of_inverse (f g : K → K) (D : K → Prop) (hf : ∀ x y, x ≤ y → f x ≤ f y)
    (hfg : ∀ y, D y → f (g y) = y) (x y : K) (hx : D x) (hy : D y) (hxy : x < y) : g x < g y := by
  apply Std.not_le.mp
  intro hn
  have := hf _ _ hn
  rw [hfg x hx, hfg y hy] at this
  exact Std.not_le.mpr hxy this

omit [Field K] [OrderedRing K] in
theorem mono_of_inverse (f g : K → K) (D : K → Prop) (hf : ∀ x y, x ≤ y → f x ≤ f y)
    (hfg : ∀ y, D y → f (g y) = y) (x y : K) (hx : D x) (hy : D y) (hxy : x ≤ y) : g x ≤ g y := by
  rcases Std.le_iff_lt_or_eq.mp hxy with hlt | rfl
  · exact Std.le_of_lt (strictMono_of_inverse f g D hf hfg x y hx hy hlt)
  · exact Std.le_refl _

/-! ### the linear shift `x ↦ x * c + s` of `LinearShiftTransform.inv_transform` and its inverse -/

theorem shift_mono (a b c s : K) (hc : 0 ≤ c) (h : a ≤ b) : a * c + s ≤ b * c + s :=
  OrderedAdd.add_le_left (mul_le_mul_of_nonneg_right a b c hc h) s

theorem shift_mem (u c s : K) (hc : 0 ≤ c) (h0 : 0 ≤ u) (h1 : u ≤ 1) : s ≤ u * c + s ∧ u * c + s ≤ c + s := by
  have a := shift_mono 0 u c s hc h0
  have b := shift_mono u 1 c s hc h1
  rw [Semiring.zero_mul, AddCommMonoid.zero_add] at a
  rw [Semiring.one_mul] at b
  exact ⟨a, b⟩

theorem unshift_mono (x y c s : K) (hc : 0 < c) (h : x ≤ y) : (x - s) / c ≤ (y - s) / c := by
  rw [AddCommGroup.sub_eq_add_neg, AddCommGroup.sub_eq_add_neg]
  exact div_le_div_right _ _ c hc (OrderedAdd.add_le_left h (-s))

theorem unshift_mem_unit (x s e : K) (h0 : s < x) (h1 : x < e) :
    0 < (x - s) / (e - s) ∧ (x - s) / (e - s) < 1 := by
  have hc : 0 < e - s := OrderedAdd.sub_pos_iff.mpr (Std.lt_trans h0 h1)
  have h1' : x - s < e - s := by
    rw [AddCommGroup.sub_eq_add_neg, AddCommGroup.sub_eq_add_neg]
    exact OrderedAdd.add_lt_left h1 (-s)
  exact ⟨(lt_div_iff 0 _ hc).mpr (by rw [Semiring.zero_mul]; exact OrderedAdd.sub_pos_iff.mpr h0),
    (div_lt_iff _ 1 hc).mpr (by rwa [Semiring.one_mul])⟩

omit [LE K] [LT K] [Std.IsLinearOrder K] [Std.LawfulOrderLT K] [OrderedRing K] in
theorem shift_unshift (x c s : K) (hc : c ≠ 0) : (x * c + s - s) / c = x := by grind

omit [LE K] [LT K] [Std.IsLinearOrder K] [Std.LawfulOrderLT K] [OrderedRing K] in
theorem unshift_shift (x c s : K) (hc : c ≠ 0) : (x - s) / c * c + s = x := by grind

omit [LE K] [LT K] [Std.IsLinearOrder K] [Std.LawfulOrderLT K] [OrderedRing K] in
/-- `NormalMessage.value_for` writes the same map as `mean + sigma * z` -/
theorem locScale_eq (m s z : K) : m + s * z = z * s + m := by grind

end Order

section Field
variable {K : Type} [Field K] [LE K] [LT K] [Std.IsLinearOrder K] [Std.LawfulOrderLT K] [OrderedRing K]
  [DecidableLE K] [DecidableLT K]
set_option linter.unusedSectionVars false

/-- the laws of the special functions used by the theorems -/
structure Lawful (S : Special K) : Prop where
  phi_phiInv : ∀ u, 0 < u → u < 1 → S.phi (S.phiInv u) = u
  phiInv_phi : ∀ x, S.phiInv (S.phi x) = x
  phi_pos : ∀ x, 0 < S.phi x
  phi_lt_one : ∀ x, S.phi x < 1
  phi_mono : ∀ x y, x ≤ y → S.phi x ≤ S.phi y
  phiInv_mono : ∀ u v, 0 < u → u ≤ v → v < 1 → S.phiInv u ≤ S.phiInv v
  exp_log : ∀ y, 0 < y → S.exp (S.log y) = y
  log_exp : ∀ x, S.log (S.exp x) = x
  exp_pos : ∀ x, 0 < S.exp x
  exp_mono : ∀ x y, x ≤ y → S.exp x ≤ S.exp y
  pow10_log10 : ∀ y, 0 < y → S.pow10 (S.log10 y) = y
  log10_pow10 : ∀ x, S.log10 (S.pow10 x) = x
  pow10_pos : ∀ x, 0 < S.pow10 x
  pow10_mono : ∀ x y, x ≤ y → S.pow10 x ≤ S.pow10 y
  log10_pos : ∀ y, 1 < y → 0 < S.log10 y
  eps_pos : 0 < S.eps
  eps_lt_one : S.eps < 1
  round_mono : ∀ n x y, x ≤ y → S.round n x ≤ S.round n y

/-- what the constructors enforce (`PriorException` otherwise), plus a positive `sigma` -/
def WF (p : Params K) : Prop :=
  match p.kind with
  | .uniform => p.lower < p.upper
  | .logUniform => 0 < p.lower ∧ p.lower < p.upper
  | .gaussian | .logGaussian => p.lower < p.upper ∧ 0 < p.sigma

/-! ### the clamp of `ndtri` is the identity inside the unit interval -/

theorem clampUnit_id (S : Special K) (x : K) (h0 : 0 < x) (h1 : x < 1) : clampUnit S x = x := by
  unfold clampUnit
  rw [if_neg (fun h => Std.not_lt.mpr h.1 h0), if_neg (fun h => Std.not_lt.mpr h.1 h1)]

theorem clampUnit_zero (S : Special K) (h : Lawful S) : clampUnit S 0 = S.eps := by
  unfold clampUnit
  have := h.eps_pos
  grind

theorem clampUnit_one (S : Special K) (h : Lawful S) : clampUnit S 1 = 1 - S.eps := by
  unfold clampUnit
  have := h.eps_pos
  grind

theorem phi_phiInv_clampUnit (S : Special K) (h : Lawful S) (t : K) (h0 : 0 < t) (h1 : t < 1) :
    S.phi (S.phiInv (clampUnit S t)) = t := by
  rw [clampUnit_id S t h0 h1, h.phi_phiInv t h0 h1]

/-! ### a stack of transforms whose linear shifts have positive scale: every `inv_transform` is
non-decreasing and undone by `transform`, hence so is the whole stack -/

theorem Tr.inv_mono (S : Special K) (h : Lawful S) (t : Tr K) (ht : ∀ s c, t = .shift s c → 0 < c)
    (x y : K) (hxy : x ≤ y) : t.inv S x ≤ t.inv S y := by
  cases t with
  | shift s c => exact shift_mono x y c s (Std.le_of_lt (ht s c rfl)) hxy
  | phi => exact h.phi_mono x y hxy
  | log => exact h.exp_mono x y hxy
  | log10 => exact h.pow10_mono x y hxy

theorem invAll_mono (S : Special K) (h : Lawful S) (ts : List (Tr K))
    (hts : ∀ s c, Tr.shift s c ∈ ts → 0 < c) (x y : K) (hxy : x ≤ y) :
    invAll S ts x ≤ invAll S ts y := by
  induction ts generalizing x y with
  | nil => exact hxy
  | cons t ts ih =>
    exact ih (fun s c hm => hts s c (List.mem_cons_of_mem t hm)) _ _
      (Tr.inv_mono S h t (fun s c e => hts s c (e ▸ List.mem_cons_self)) x y hxy)

/-- holds for every `x`: the range of `ndtr` is inside the unit interval, where `ndtri` does not clamp -/
theorem Tr.fwd_inv (S : Special K) (h : Lawful S) (t : Tr K) (ht : ∀ s c, t = .shift s c → 0 < c)
    (x : K) : t.fwd S (t.inv S x) = x := by
  cases t with
  | shift s c => exact shift_unshift x c s (Std.ne_of_lt (ht s c rfl)).symm
  | phi =>
    show S.phiInv (clampUnit S (S.phi x)) = x
    rw [clampUnit_id S _ (h.phi_pos x) (h.phi_lt_one x), h.phiInv_phi]
  | log => exact h.log_exp x
  | log10 => exact h.log10_pow10 x

theorem fwdAll_invAll (S : Special K) (h : Lawful S) (ts : List (Tr K))
    (hts : ∀ s c, Tr.shift s c ∈ ts → 0 < c) (x : K) : fwdAll S ts (invAll S ts x) = x := by
  induction ts generalizing x with
  | nil => rfl
  | cons t ts ih =>
    show t.fwd S (fwdAll S ts (invAll S ts (t.inv S x))) = x
    rw [ih (fun s c hm => hts s c (List.mem_cons_of_mem t hm)),
      Tr.fwd_inv S h t (fun s c e => hts s c (e ▸ List.mem_cons_self))]

/-! ### the four transform stacks and their inverses, unfolded -/

theorem raw_uniform (S : Special K) (L U m s u : K) :
    rawValueFor S ⟨.uniform, L, U, m, s⟩ u = S.phi (S.phiInv u) * (U - L) + L := by
  simp [rawValueFor, transforms, baseValue, invAll, Tr.inv]

theorem raw_logUniform (S : Special K) (L U m s u : K) :
    rawValueFor S ⟨.logUniform, L, U, m, s⟩ u
      = S.pow10 (S.phi (S.phiInv u) * S.log10 (U / L) + S.log10 L) := by
  simp [rawValueFor, transforms, baseValue, invAll, Tr.inv]

theorem raw_gaussian (S : Special K) (L U m s u : K) :
    rawValueFor S ⟨.gaussian, L, U, m, s⟩ u = m + s * S.phiInv u := by
  simp [rawValueFor, transforms, baseValue, invAll]

theorem raw_logGaussian (S : Special K) (L U m s u : K) :
    rawValueFor S ⟨.logGaussian, L, U, m, s⟩ u = S.exp (m + s * S.phiInv u) := by
  simp [rawValueFor, transforms, baseValue, invAll, Tr.inv]

theorem unit_uniform (S : Special K) (L U m s x : K) :
    unitValueFor S ⟨.uniform, L, U, m, s⟩ x = S.phi (S.phiInv (clampUnit S ((x - L) / (U - L)))) := by
  simp [unitValueFor, transforms, baseCdf, fwdAll, Tr.fwd]

theorem unit_logUniform (S : Special K) (L U m s x : K) :
    unitValueFor S ⟨.logUniform, L, U, m, s⟩ x
      = S.phi (S.phiInv (clampUnit S ((S.log10 x - S.log10 L) / S.log10 (U / L)))) := by
  simp [unitValueFor, transforms, baseCdf, fwdAll, Tr.fwd]

theorem unit_gaussian (S : Special K) (L U m s x : K) :
    unitValueFor S ⟨.gaussian, L, U, m, s⟩ x = S.phi ((x - m) / s) := by
  simp [unitValueFor, transforms, baseCdf, fwdAll]

theorem unit_logGaussian (S : Special K) (L U m s x : K) :
    unitValueFor S ⟨.logGaussian, L, U, m, s⟩ x = S.phi ((S.log x - m) / s) := by
  simp [unitValueFor, transforms, baseCdf, fwdAll, Tr.fwd]

/-- every unit value is a value of `ndtr`, hence strictly inside the unit interval -/
theorem unitValueFor_mem (S : Special K) (h : Lawful S) (p : Params K) (x : K) :
    0 < unitValueFor S p x ∧ unitValueFor S p x < 1 := by
  unfold unitValueFor baseCdf
  split <;> exact ⟨h.phi_pos _, h.phi_lt_one _⟩

/-- the CDF of the distribution each prior declares, in closed form -/
def declaredCdf (S : Special K) (p : Params K) (x : K) : K :=
  match p.kind with
  | .uniform => (x - p.lower) / (p.upper - p.lower)
  | .logUniform => (S.log10 x - S.log10 p.lower) / S.log10 (p.upper / p.lower)
  | .gaussian => S.phi ((x - p.mean) / p.sigma)
  | .logGaussian => S.phi ((S.log x - p.mean) / p.sigma)

theorem logScale_pos (S : Special K) (h : Lawful S) (L U : K) (hL : 0 < L) (hLU : L < U) :
    0 < S.log10 (U / L) :=
  h.log10_pos _ ((lt_div_iff 1 U hL).mpr (by rwa [Semiring.one_mul]))

theorem transforms_pos (S : Special K) (h : Lawful S) (p : Params K) (hp : WF p) (s c : K)
    (hm : Tr.shift s c ∈ transforms S p) : 0 < c := by
  obtain ⟨kind, L, U, m, sg⟩ := p
  cases kind <;> simp only [WF] at hp <;> simp [transforms] at hm
  · rw [hm.2]
    exact OrderedAdd.sub_pos_iff.mpr hp
  · rw [hm.2]
    exact logScale_pos S h L U hp.1 hp.2

theorem baseValue_mono (S : Special K) (h : Lawful S) (p : Params K) (hp : WF p) (u v : K)
    (h0 : 0 < u) (huv : u ≤ v) (h1 : v < 1) : baseValue S p u ≤ baseValue S p v := by
  have hz := h.phiInv_mono u v h0 huv h1
  obtain ⟨kind, L, U, m, s⟩ := p
  cases kind <;> simp only [WF] at hp <;> simp only [baseValue]
  · exact hz
  · exact hz
  · exact OrderedAdd.add_le_right_iff m |>.mp (mul_le_mul_of_nonneg_left _ _ s (Std.le_of_lt hp.2) hz)
  · exact OrderedAdd.add_le_right_iff m |>.mp (mul_le_mul_of_nonneg_left _ _ s (Std.le_of_lt hp.2) hz)

theorem baseCdf_baseValue (S : Special K) (h : Lawful S) (p : Params K) (hp : WF p) (u : K)
    (h0 : 0 < u) (h1 : u < 1) : baseCdf S p (baseValue S p u) = u := by
  obtain ⟨kind, L, U, m, s⟩ := p
  cases kind <;> simp only [WF] at hp <;> simp only [baseCdf, baseValue]
  · exact h.phi_phiInv u h0 h1
  · exact h.phi_phiInv u h0 h1
  · rw [locScale_eq, shift_unshift _ _ _ (Std.ne_of_lt hp.2).symm, h.phi_phiInv u h0 h1]
  · rw [locScale_eq, shift_unshift _ _ _ (Std.ne_of_lt hp.2).symm, h.phi_phiInv u h0 h1]

theorem clamp_mem (L U v : K) (hLU : L ≤ U) : L ≤ clamp L U v ∧ clamp L U v ≤ U := by
  unfold clamp
  grind

theorem clamp_mono (L U v w : K) (h : v ≤ w) : clamp L U v ≤ clamp L U w := by
  unfold clamp
  grind

end Field

/-! ### the limit gate and what follows it, as equations (any number type, `Float` included) -/

theorem Outcome.of_ite_eq_ok {K : Type} {c : Prop} [Decidable c] {x v : K}
    (h : (if c then Outcome.ok x else .limit) = .ok v) : c ∧ x = v := by
  split at h
  · exact ⟨‹c›, Outcome.ok.inj h⟩
  · cases h

section Gate
variable {K : Type} [LE K] [DecidableLE K]

theorem inLimits_iff (L U v : K) : inLimits L U v = true ↔ L ≤ v ∧ v ≤ U := by
  simp [inLimits]

theorem gate_eq (ignore : Bool) (L U raw : K) :
    gate ignore L U raw = if ignore = true ∨ (L ≤ raw ∧ raw ≤ U) then .ok raw else .limit := by
  simp only [gate, Bool.or_eq_true, inLimits_iff]

end Gate

section Finish
variable {K : Type} [Add K] [Sub K] [Mul K] [Div K] [LE K] [LT K] [DecidableLE K] [DecidableLT K]
  [OfNat K 0] [OfNat K 1] [OfNat K 10]
set_option linter.unusedSectionVars false

theorem finish_eq (S : Special K) (cfg : Cfg) (ignore : Bool) (p : Params K) (raw : K) :
    finish S cfg ignore p raw =
      if ignore = true ∨ (p.lower ≤ raw ∧ raw ≤ p.upper) then
        .ok (if p.kind = .uniform then uniformPost S cfg ignore p.lower p.upper raw else raw)
      else .limit := by
  unfold finish
  rw [gate_eq]
  by_cases hc : ignore = true ∨ (p.lower ≤ raw ∧ raw ≤ p.upper)
  · rw [if_pos hc, if_pos hc]
    cases p.kind <;> rfl
  · rw [if_neg hc, if_neg hc]

end Finish

/-! ### `UniformPrior._decimal_places` (any number type, `Float` included) -/

section Places
variable {K : Type} [Mul K] [LT K] [DecidableLT K] [OfNat K 1] [OfNat K 10]

theorem decimalPlacesGo_range (w : K) (p fuel : Nat) (hp : p ≤ 323) :
    p ≤ decimalPlacesGo w p fuel ∧ decimalPlacesGo w p fuel ≤ 323 := by
  induction fuel generalizing w p with
  | zero => simpa [decimalPlacesGo]
  | succ n ih =>
    simp only [decimalPlacesGo]
    split
    · have := ih (w * 10) (p + 1) (by omega)
      omega
    · omega

end Places

/-! ### the integer rounding step of `pyRound` (CPython `round(x, n)`) -/

theorem divRoundHalfEven_bounds (a d : Nat) :
    a / d ≤ divRoundHalfEven a d ∧ divRoundHalfEven a d ≤ a / d + 1 := by
  unfold divRoundHalfEven
  simp only
  split <;> omega

theorem divRoundHalfEven_mono (a b d : Nat) (h : a ≤ b) :
    divRoundHalfEven a d ≤ divRoundHalfEven b d := by
  have hq : a / d ≤ b / d := Nat.div_le_div_right h
  by_cases hqq : a / d = b / d
  · -- same quotient: the remainder grows, and rounding up is monotone in the remainder
    have ea := Nat.div_add_mod a d
    have eb := Nat.div_add_mod b d
    unfold divRoundHalfEven
    simp only
    rw [hqq] at ea ⊢
    split <;> split <;> omega
  · have := (divRoundHalfEven_bounds a d).2
    have := (divRoundHalfEven_bounds b d).1
    omega

/-- values already on the decimal grid are fixed -/
theorem divRoundHalfEven_exact (k d : Nat) (hd : 0 < d) : divRoundHalfEven (k * d) d = k := by
  unfold divRoundHalfEven
  simp [Nat.mul_div_cancel _ hd]
  omega

/-! ### `Lawful` is inhabited: closed-form bijections over `Rat` -/

/-- strictly increasing bijection `Rat → (0,1)` -/
def ratPhi (x : Rat) : Rat := if 0 ≤ x then 1 - 1 / (2 * (1 + x)) else 1 / (2 * (1 - x))

def ratPhiInv (u : Rat) : Rat := if 1 / 2 ≤ u then 1 / (2 * (1 - u)) - 1 else 1 - 1 / (2 * u)

/-- strictly increasing bijection `Rat → (0,∞)` -/
def ratExp (x : Rat) : Rat := if 0 ≤ x then x + 1 else 1 / (1 - x)

def ratLog (y : Rat) : Rat := if 1 ≤ y then y - 1 else 1 - 1 / y

def ratSpecial : Special Rat where
  phi := ratPhi
  phiInv := ratPhiInv
  exp := ratExp
  log := ratLog
  pow10 := ratExp
  log10 := ratLog
  eps := 1 / 100000000000000
  round := fun _ x => x
  roundLegacy := fun x => x

theorem rat_half_div (t : Rat) (h : 1 ≤ t) : 0 < 1 / (2 * t) ∧ 1 / (2 * t) ≤ 1 / 2 ∧ (1 < t → 1 / (2 * t) < 1 / 2) := by
  have h2 : (0 : Rat) < 2 * t := by grind
  refine ⟨one_div_pos _ h2, (div_le_iff _ _ h2).mpr (by grind), fun h1 => (div_lt_iff _ _ h2).mpr (by grind)⟩

theorem rat_one_le_div (t : Rat) (h0 : 0 < t) (h1 : t ≤ 1) : 1 ≤ 1 / t ∧ (t < 1 → 1 < 1 / t) :=
  ⟨(le_div_iff _ _ h0).mpr (by grind), fun h => (lt_div_iff _ _ h0).mpr (by grind)⟩

theorem rat_phi_mem (x : Rat) : 0 < ratPhi x ∧ ratPhi x < 1 := by
  unfold ratPhi
  split
  · have := rat_half_div (1 + x) (by grind)
    grind
  · have := rat_half_div (1 - x) (by grind)
    grind

theorem rat_phi_phiInv (u : Rat) (h0 : 0 < u) (h1 : u < 1) : ratPhi (ratPhiInv u) = u := by
  unfold ratPhiInv ratPhi
  by_cases h : 1 / 2 ≤ u
  · have := (rat_one_le_div (2 * (1 - u)) (by grind) (by grind)).1
    rw [if_pos h, if_pos (by grind)]
    grind
  · have := (rat_one_le_div (2 * u) (by grind) (by grind)).2 (by grind)
    rw [if_neg h, if_neg (by grind)]
    grind

theorem rat_phiInv_phi (x : Rat) : ratPhiInv (ratPhi x) = x := by
  unfold ratPhi ratPhiInv
  by_cases h : 0 ≤ x
  · have := rat_half_div (1 + x) (by grind)
    grind
  · have := rat_half_div (1 - x) (by grind)
    grind

theorem rat_phi_mono (x y : Rat) (h : x ≤ y) : ratPhi x ≤ ratPhi y := by
  unfold ratPhi
  by_cases hx : 0 ≤ x
  · have hy : 0 ≤ y := Std.le_trans hx h
    rw [if_pos hx, if_pos hy]
    have := one_div_anti (2 * (1 + x)) (2 * (1 + y)) (by grind) (by grind)
    grind
  · rw [if_neg hx]
    by_cases hy : 0 ≤ y
    · rw [if_pos hy]
      have h1 := rat_half_div (1 - x) (by grind)
      have h2 := rat_half_div (1 + y) (by grind)
      grind
    · rw [if_neg hy]
      exact one_div_anti (2 * (1 - y)) (2 * (1 - x)) (by grind) (by grind)

theorem rat_phiInv_mono (u v : Rat) (h0 : 0 < u) (h : u ≤ v) (h1 : v < 1) : ratPhiInv u ≤ ratPhiInv v :=
  mono_of_inverse ratPhi ratPhiInv (fun u => 0 < u ∧ u < 1) rat_phi_mono
    (fun u hu => rat_phi_phiInv u hu.1 hu.2) u v ⟨h0, Std.lt_of_le_of_lt h h1⟩ ⟨Std.lt_of_lt_of_le h0 h, h1⟩ h

theorem rat_exp_pos (x : Rat) : 0 < ratExp x := by
  unfold ratExp
  split
  · grind
  · exact one_div_pos _ (by grind)

theorem rat_exp_log (y : Rat) (h : 0 < y) : ratExp (ratLog y) = y := by
  unfold ratLog ratExp
  by_cases h1 : 1 ≤ y
  · grind
  · have := rat_one_le_div y h (by grind)
    grind

theorem rat_log_exp (x : Rat) : ratLog (ratExp x) = x := by
  unfold ratExp ratLog
  by_cases h : 0 ≤ x
  · grind
  · have hlt : 1 / (1 - x) < 1 := (div_lt_iff 1 1 (c := 1 - x) (by grind)).mpr (by grind)
    simp only [h, if_false, if_neg (Std.not_le.mpr hlt)]
    grind

theorem rat_exp_mono (x y : Rat) (h : x ≤ y) : ratExp x ≤ ratExp y := by
  unfold ratExp
  by_cases hx : 0 ≤ x
  · rw [if_pos hx, if_pos (Std.le_trans hx h)]
    grind
  · rw [if_neg hx]
    by_cases hy : 0 ≤ y
    · have := one_div_anti 1 (1 - x) (by decide +kernel) (by grind)
      rw [if_pos hy]
      grind
    · rw [if_neg hy]
      exact one_div_anti (1 - y) (1 - x) (by grind) (by grind)

theorem rat_log_pos (y : Rat) (h : 1 < y) : 0 < ratLog y := by
  unfold ratLog
  split <;> grind

theorem ratSpecial_lawful : Lawful ratSpecial where
  phi_phiInv := rat_phi_phiInv
  phiInv_phi := rat_phiInv_phi
  phi_pos := fun x => (rat_phi_mem x).1
  phi_lt_one := fun x => (rat_phi_mem x).2
  phi_mono := rat_phi_mono
  phiInv_mono := rat_phiInv_mono
  exp_log := rat_exp_log
  log_exp := rat_log_exp
  exp_pos := rat_exp_pos
  exp_mono := rat_exp_mono
  pow10_log10 := rat_exp_log
  log10_pow10 := rat_log_exp
  pow10_pos := rat_exp_pos
  pow10_mono := rat_exp_mono
  log10_pos := rat_log_pos
  eps_pos := by decide +kernel
  eps_lt_one := by decide +kernel
  round_mono := fun _ _ _ h => h

end AF.Prior
