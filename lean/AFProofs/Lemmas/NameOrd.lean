import AFModel.FloatOps

/-! The concrete member order `posLe` (Python tuple comparison of `_position_key`) is total and
transitive — so the sorting theorems of C01 apply to the order the driver (and the code) uses. -/

namespace AF

theorem str_lt_or_eq_or_gt (a b : String) : a < b ∨ a = b ∨ b < a := by
  by_cases h1 : a < b
  · exact Or.inl h1
  · by_cases h2 : b < a
    · exact Or.inr (Or.inr h2)
    · exact Or.inr (Or.inl (String.le_antisymm (String.not_lt.mp h2) (String.not_lt.mp h1)))

section
variable {α β : Type} (lt : α → α → Prop) [DecidableRel lt] [DecidableEq α] (r : β → β → Bool)

def lexStep (x y : α × β) : Bool :=
  if lt x.1 y.1 then true else if x.1 = y.1 then r x.2 y.2 else false

theorem lexStep_iff (x y : α × β) :
    lexStep lt r x y = true ↔ lt x.1 y.1 ∨ (x.1 = y.1 ∧ r x.2 y.2 = true) := by
  unfold lexStep
  by_cases h1 : lt x.1 y.1
  · rw [if_pos h1]; exact ⟨fun _ => .inl h1, fun _ => rfl⟩
  · rw [if_neg h1, or_iff_right h1]
    by_cases h2 : x.1 = y.1
    · rw [if_pos h2, and_iff_right h2]
    · rw [if_neg h2]; exact ⟨nofun, fun h => absurd h.1 h2⟩

theorem lexStep_total (hcon : ∀ a b, lt a b ∨ a = b ∨ lt b a) (hr : ∀ a b, r a b = true ∨ r b a = true)
    (x y : α × β) : lexStep lt r x y = true ∨ lexStep lt r y x = true := by
  rw [lexStep_iff, lexStep_iff]
  rcases hcon x.1 y.1 with h | h | h
  · exact .inl (.inl h)
  · exact (hr x.2 y.2).imp (fun h' => .inr ⟨h, h'⟩) (fun h' => .inr ⟨h.symm, h'⟩)
  · exact .inr (.inl h)

theorem lexStep_trans (htr : ∀ a b c, lt a b → lt b c → lt a c)
    (hr : ∀ a b c, r a b = true → r b c = true → r a c = true) (x y z : α × β) :
    lexStep lt r x y = true → lexStep lt r y z = true → lexStep lt r x z = true := by
  rw [lexStep_iff, lexStep_iff, lexStep_iff]
  rintro (h1 | ⟨e1, h1⟩) (h2 | ⟨e2, h2⟩)
  · exact .inl (htr _ _ _ h1 h2)
  · exact .inl (e2 ▸ h1)
  · exact .inl (e1 ▸ h2)
  · exact .inr ⟨e1.trans e2, hr _ _ _ h1 h2⟩

end

def lex3 : String × Int × String → String × Int × String → Bool :=
  lexStep (· < ·) (lexStep (· < ·) fun a b => decide (a ≤ b))

theorem posLe_eq_lex3 (a b : String) : posLe a b = lex3 (posKey a) (posKey b) := rfl

theorem lex3_total : ∀ x y, lex3 x y = true ∨ lex3 y x = true :=
  lexStep_total _ _ str_lt_or_eq_or_gt <| lexStep_total _ _ Int.lt_trichotomy
    fun a b => (String.le_total a b).imp decide_eq_true decide_eq_true

theorem lex3_trans : ∀ x y z, lex3 x y = true → lex3 y z = true → lex3 x z = true :=
  lexStep_trans _ _ (fun _ _ _ => String.lt_trans) <| lexStep_trans _ _ (fun _ _ _ => Int.lt_trans)
    fun _ _ _ h1 h2 => decide_eq_true (String.le_trans (of_decide_eq_true h1) (of_decide_eq_true h2))

theorem posLe_total (a b : String) : posLe a b = true ∨ posLe b a = true := by
  rw [posLe_eq_lex3, posLe_eq_lex3]; exact lex3_total _ _

theorem posLe_trans (a b c : String) (h1 : posLe a b = true) (h2 : posLe b c = true) :
    posLe a c = true := by
  rw [posLe_eq_lex3] at h1 h2 ⊢; exact lex3_trans _ _ _ h1 h2

end AF
