import AFProofs.Lemmas.DictJson

/-! The skeleton (`pnErase`) of the rich composition commutes with renaming and with the reload names;
assertions keep their verdicts; the counter of a rebuilt collection (C08). -/

namespace AF

variable {V : Type}

theorem arithAttrs_rename (σ : Nat → Nat) (ln rn : String) (a b : Node V) :
    arithAttrs ln rn (renameIds σ a) (renameIds σ b) = renameAttrs σ (arithAttrs ln rn a b) := by
  unfold arithAttrs
  split <;> rfl

theorem pnErase_rename_all (sig : String → List String) (σ : Nat → Nat) :
    (∀ n : PN V, pnErase sig (renamePN σ n) = renameIds σ (pnErase sig n)) ∧
    (∀ attrs : List (String × PN V), pnEraseAttrs sig (renamePNAttrs σ attrs) = renameAttrs σ (pnEraseAttrs sig attrs)) := by
  apply PN.induct_attrs
  case lit => intro s; cases s <;> rfl
  all_goals intros; simp only [renamePN, renamePNAttrs, pnErase, pnEraseAttrs, renameIds, renameAttrs, arithAttrs_rename, *]

theorem pnErase_rename (sig : String → List String) (σ : Nat → Nat) : ∀ (n : PN V),
    pnErase sig (renamePN σ n) = renameIds σ (pnErase sig n) := (pnErase_rename_all sig σ).1
theorem pnEraseAttrs_rename (sig : String → List String) (σ : Nat → Nat) : ∀ (attrs : List (String × PN V)),
    pnEraseAttrs sig (renamePNAttrs σ attrs) = renameAttrs σ (pnEraseAttrs sig attrs) := (pnErase_rename_all sig σ).2

theorem priorId?_pnErase (sig : String → List String) (a : PN V) : (pnErase sig a).priorId? = a.priorId? := by
  cases a <;> first | rfl | (rename_i s; cases s <;> rfl)

theorem samePrior_erase (sig : String → List String) (a b : PN V) :
    samePrior (pnErase sig a) (pnErase sig b) = samePN a b := by
  rw [samePrior_eq, samePN_eq, priorId?_pnErase, priorId?_pnErase]

theorem arithAttrs_reload (sig : String → List String) (a b : PN V) :
    arithAttrs (reloadLeftName a b) "right_" (pnErase sig a) (pnErase sig b) =
      operandAttrs (pnErase sig a) (pnErase sig b) := by
  unfold arithAttrs reloadLeftName operandAttrs
  rw [samePrior_erase]
  cases samePN a b <;> simp

theorem pnErase_canon_all (sig : String → List String) (dflt : String → List (String × Scal V)) :
    (∀ n : PN V, pnErase sig (canonPN dflt n) = canonNames (pnErase sig n)) ∧
    (∀ attrs : List (String × PN V),
      pnEraseAttrs sig (canonPNAttrs dflt attrs) = canonNamesAttrs (pnEraseAttrs sig attrs)) := by
  apply PN.induct_attrs
  case lit => intro s; cases s <;> rfl
  case arith => intro _ _ _ l r hl hr; simp only [canonPN, pnErase, canonNames]; rw [arithAttrs_reload, hl, hr]
  all_goals intros; simp only [canonPN, canonPNAttrs, pnErase, pnEraseAttrs, canonNames, canonNamesAttrs,
    List.head?_cons, Option.map_some, Option.getD_some, *]

theorem pnErase_canon (sig : String → List String) (dflt : String → List (String × Scal V)) : ∀ (n : PN V),
    pnErase sig (canonPN dflt n) = canonNames (pnErase sig n) := (pnErase_canon_all sig dflt).1
theorem pnEraseAttrs_canon (sig : String → List String) (dflt : String → List (String × Scal V)) :
    ∀ (attrs : List (String × PN V)),
    pnEraseAttrs sig (canonPNAttrs dflt attrs) = canonNamesAttrs (pnEraseAttrs sig attrs) := (pnErase_canon_all sig dflt).2

theorem walk_erase_sub_all (sig : String → List String) :
    (∀ n : PN V, (walk (pnErase sig n)).map (·.2) ⊆ pnLoadOrder n) ∧
    (∀ attrs : List (String × PN V), (walkAttrs (pnEraseAttrs sig attrs)).map (·.2) ⊆ pnLoadOrderAttrs attrs) := by
  apply PN.induct_attrs
  case prior => intro _ _; exact List.Subset.refl _
  case lit => intro s; cases s <;> exact List.nil_subset _
  case model | coll => intro _ _ _ ha; exact List.subset_append_of_subset_left _ ha
  case tuple => intro _ ha; exact ha
  case array => intro _ _ ha; exact ha
  case modif =>
    intro _ _ _ hx
    simpa only [pnErase, pnLoadOrder, walk, walkAttrs, List.map_append, List.map_map, List.map_nil, List.append_nil, Function.comp_def]
      using hx
  case arith =>
    intro _ ln rn l r hl hr
    simp only [pnErase, walk, arithAttrs, pnLoadOrder]
    split <;> simp only [walkAttrs, List.map_append, List.map_map, List.append_nil, Function.comp_def]
    · exact List.subset_append_of_subset_right _ hr
    · exact List.append_subset.mpr ⟨List.subset_append_of_subset_left _ hl, List.subset_append_of_subset_right _ hr⟩
  case consA =>
    intro _ _ _ hn hr
    simp only [pnEraseAttrs, walkAttrs, List.map_append, List.map_map, Function.comp_def]
    exact List.append_subset.mpr ⟨List.subset_append_of_subset_left _ hn, List.subset_append_of_subset_right _ hr⟩
  all_goals intros; exact List.nil_subset _

theorem walk_erase_sub (sig : String → List String) : ∀ (n : PN V),
    (walk (pnErase sig n)).map (·.2) ⊆ pnLoadOrder n := (walk_erase_sub_all sig).1
theorem walkAttrs_erase_sub (sig : String → List String) : ∀ (attrs : List (String × PN V)) (x : Path × Nat),
    x ∈ walkAttrs (pnEraseAttrs sig attrs) → x.2 ∈ pnLoadOrderAttrs attrs :=
  fun attrs _ h => (walk_erase_sub_all sig).2 attrs (List.mem_map_of_mem h)

theorem operandVal_reload [Inhabited V] (ops : Ops V) (sig : String → List String)
    (dflt : String → List (String × Scal V)) (σ : Nat → Nat) (ρ ρ' : Nat → Inst V)
    (h : ∀ i, ρ' (σ i) = ρ i) (n : PN V) :
    operandVal ops ρ' (pnErase sig (renamePN σ (canonPN dflt n))) = operandVal ops ρ (pnErase sig n) := by
  unfold operandVal
  rw [pnErase_rename, pnErase_canon, instW_rename, show (fun i => ρ' (σ i)) = ρ from funext h, instW_canonNames]

theorem evalA_cmp_congr [Inhabited V] (ops : Ops V) {ρ ρ' : Nat → Inst V} {l l' g g' : Node V}
    (hl : operandVal ops ρ' l' = operandVal ops ρ l) (hg : operandVal ops ρ' g' = operandVal ops ρ g) (strict : Bool) :
    evalA ops ρ' (.cmp strict l' g') = evalA ops ρ (.cmp strict l g) := by
  simp only [evalA, hl, hg]

theorem evalA_ite [Inhabited V] (ops : Ops V) {ρ ρ' : Nat → Inst V} {c : Prop} [Decidable c] {a a' b b' : Asrt V}
    (ha : evalA ops ρ' a' = evalA ops ρ a) (hb : evalA ops ρ' b' = evalA ops ρ b) :
    evalA ops ρ' (if c then a' else b') = evalA ops ρ (if c then a else b) := by
  split <;> assumption

theorem evalA_asrtOf_reload [Inhabited V] (ops : Ops V) (sig : String → List String)
    (dflt : String → List (String × Scal V)) (σ : Nat → Nat) (ρ ρ' : Nat → Inst V)
    (h : ∀ i, ρ' (σ i) = ρ i) : ∀ (a : PN V),
    evalA ops ρ' (asrtOf sig (renamePN σ (canonPN dflt a))) = evalA ops ρ (asrtOf sig a) := by
  refine (PN.induct_attrs (PA := fun _ => True) ?prior ?lit ?model ?inst ?coll ?tuple ?arith ?both ?modif ?array ?list
    trivial (fun _ _ _ _ _ => trivial)).1
  case arith =>
    intro _ _ _ l r _ _
    have hl := operandVal_reload ops sig dflt σ ρ ρ' h l
    have hr := operandVal_reload ops sig dflt σ ρ ρ' h r
    exact evalA_ite ops (evalA_cmp_congr ops hl hr true) (evalA_ite ops (evalA_cmp_congr ops hl hr false) rfl)
  case both => intro _ _ hx hy; simp only [canonPN, renamePN, asrtOf, evalA, hx, hy]
  all_goals intros; rfl

theorem pnAsserts_rename_all (σ : Nat → Nat) :
    (∀ n : PN V, pnAsserts (renamePN σ n) = renamePNList σ (pnAsserts n)) ∧
    (∀ attrs : List (String × PN V), pnAssertsAttrs (renamePNAttrs σ attrs) = renamePNList σ (pnAssertsAttrs attrs)) := by
  apply PN.induct_attrs <;> intros <;>
    simp only [renamePN, renamePNAttrs, pnAsserts, pnAssertsAttrs, renamePNList_eq_map, List.map_append, List.map_nil, *]

theorem pnAsserts_rename (σ : Nat → Nat) : ∀ (n : PN V),
    pnAsserts (renamePN σ n) = renamePNList σ (pnAsserts n) := (pnAsserts_rename_all σ).1
theorem pnAssertsAttrs_rename (σ : Nat → Nat) : ∀ (attrs : List (String × PN V)),
    pnAssertsAttrs (renamePNAttrs σ attrs) = renamePNList σ (pnAssertsAttrs attrs) := (pnAsserts_rename_all σ).2

theorem pnAsserts_canon_all (dflt : String → List (String × Scal V)) :
    (∀ n : PN V, pnAsserts (canonPN dflt n) = canonPNList dflt (pnAsserts n)) ∧
    (∀ attrs : List (String × PN V),
      pnAssertsAttrs (canonPNAttrs dflt attrs) = canonPNList dflt (pnAssertsAttrs attrs)) := by
  apply PN.induct_attrs <;> intros <;>
    simp only [canonPN, canonPNAttrs, pnAsserts, pnAssertsAttrs, canonPNList_eq_map, List.map_append, List.map_nil, *]

theorem pnAsserts_canon (dflt : String → List (String × Scal V)) : ∀ (n : PN V),
    pnAsserts (canonPN dflt n) = canonPNList dflt (pnAsserts n) := (pnAsserts_canon_all dflt).1
theorem pnAssertsAttrs_canon (dflt : String → List (String × Scal V)) : ∀ (attrs : List (String × PN V)),
    pnAssertsAttrs (canonPNAttrs dflt attrs) = canonPNList dflt (pnAssertsAttrs attrs) := (pnAsserts_canon_all dflt).2

theorem verdicts_reload_list [Inhabited V] (ops : Ops V) (sig : String → List String)
    (dflt : String → List (String × Scal V)) (σ : Nat → Nat) (ρ ρ' : Nat → Inst V)
    (h : ∀ i, ρ' (σ i) = ρ i) (l : List (PN V)) :
    (renamePNList σ (canonPNList dflt l)).map (fun a => evalA ops ρ' (asrtOf sig a)) =
      l.map (fun a => evalA ops ρ (asrtOf sig a)) := by
  rw [renamePNList_eq_map, canonPNList_eq_map, List.map_map, List.map_map]
  exact List.map_congr_left fun a _ => evalA_asrtOf_reload ops sig dflt σ ρ ρ' h a

theorem nextPosition_le_iff : ∀ (ps : List (Option Nat)) (n : Nat), nextPosition ps ≤ n ↔ ∀ k, some k ∈ ps → k < n
  | [], n => by simp [nextPosition]
  | none :: rest, n => by simp [nextPosition, nextPosition_le_iff rest n]
  | some j :: rest, n => by
      simp only [nextPosition, List.mem_cons, Option.some.injEq, forall_eq_or_imp, ← nextPosition_le_iff rest n]
      exact Nat.max_le

end AF
