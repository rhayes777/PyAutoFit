import AFModel.Msg
import Mathlib.Tactic.FieldSimp
import Mathlib.Tactic.Ring
import Mathlib.Algebra.Order.Field.Basic

/-! The maps between natural and ordinary parameters are mutually inverse on `InDomain`; product, quotient and
power of messages are `fromNatural` of the combined natural parameters. The ordered field is Mathlib's
(`Field`, `LinearOrder`, `IsStrictOrderedRing`), not the core `Lean.Grind` classes of Lemmas/Prior.lean. -/

set_option linter.unusedSectionVars false

namespace AF.Msg

section field
variable {K : Type} [Field K] [LinearOrder K] [IsStrictOrderedRing K]

/-- what the theorems use of `sqrt` -/
structure SqrtLaw (fn : Fn K) : Prop where
  sq : ∀ x : K, 0 ≤ x → fn.sqrt x * fn.sqrt x = x
  nonneg : ∀ x : K, 0 ≤ fn.sqrt x

/-- the natural-parameter domain on which the code's detour through ordinary parameters is exact:
`η₂ < 0` for `NormalMessage`; everything for the other classes (their maps are affine) -/
def InDomain (fam : Family) (eta : K × K) : Prop := fam = .normal → eta.2 < 0

instance (fam : Family) (eta : K × K) : Decidable (InDomain fam eta) := by
  unfold InDomain; infer_instance

omit [IsStrictOrderedRing K] in
theorem inDomain_of_ne_normal {fam : Family} (h : fam ≠ .normal) (eta : K × K) : InDomain fam eta :=
  fun h' => absurd h' h

theorem SqrtLaw.sqrt_mul_self {fn : Fn K} (hs : SqrtLaw fn) {x : K} (hx : 0 ≤ x) : fn.sqrt (x * x) = x :=
  (mul_self_inj (hs.nonneg _) hx).1 (hs.sq _ (mul_self_nonneg x))

theorem SqrtLaw.sqrt_pos {fn : Fn K} (hs : SqrtLaw fn) {x : K} (hx : 0 < x) : 0 < fn.sqrt x :=
  lt_of_le_of_ne (hs.nonneg x) fun h => hx.ne' (by rw [← hs.sq x hx.le, ← h, mul_zero])

/-- natural → ordinary → natural is the identity on the domain -/
theorem calc_invert {fn : Fn K} (hs : SqrtLaw fn) (fam : Family) (eta : K × K) (hd : InDomain fam eta) :
    calcNatural fam (invertNatural fn fam eta).1 (invertNatural fn fam eta).2 = eta := by
  cases fam with
  | normal =>
    have h2 : eta.2 < 0 := hd rfl
    have hne : eta.2 ≠ 0 := h2.ne
    -- the precision `1 / σ²` recovered from `σ = sqrt (-(1/2) / η₂)`
    have hprec : 1 / (-(1 / 2) / eta.2) = -(2 * eta.2) := by field_simp
    have hpos : 0 ≤ -(1 / 2) / eta.2 := (div_pos_of_neg_of_neg (by norm_num) h2).le
    simp only [calcNatural, invertNatural]
    rw [hs.sq _ hpos, hprec]
    refine Prod.ext ?_ ?_
    · show -(1 / 2) * eta.1 / eta.2 * -(2 * eta.2) = eta.1
      field_simp
    · show - -(2 * eta.2) / 2 = eta.2
      rw [neg_neg, mul_div_cancel_left₀ _ two_ne_zero]
  | naturalNormal => rfl
  | gamma => exact Prod.ext (add_sub_cancel_right _ _) (neg_neg _)
  | beta => exact Prod.ext (add_sub_cancel_right _ _) (add_sub_cancel_right _ _)
  | fixed => rfl

/-- ordinary → natural → ordinary is the identity for valid ordinary parameters -/
theorem invert_calc {fn : Fn K} (hs : SqrtLaw fn) (fam : Family) (p1 p2 : K) (hp : fam = .normal → 0 < p2) :
    invertNatural fn fam (calcNatural fam p1 p2) = (p1, p2) := by
  cases fam with
  | normal =>
    have h2 : 0 < p2 := hp rfl
    have hne : p2 * p2 ≠ 0 := (mul_pos h2 h2).ne'
    have hvar : -(1 / 2 : K) / (-(1 / (p2 * p2)) / 2) = p2 * p2 := by field_simp
    have hmean : -(1 / 2) * (p1 * (1 / (p2 * p2))) / (-(1 / (p2 * p2)) / 2) = p1 := by field_simp
    simp only [calcNatural, invertNatural]
    rw [hvar, hs.sqrt_mul_self h2.le, hmean]
  | naturalNormal => rfl
  | gamma => exact Prod.ext (sub_add_cancel _ _) (neg_neg _)
  | beta => exact Prod.ext (sub_add_cancel _ _) (sub_add_cancel _ _)
  | fixed => rfl

theorem inDomain_natural (a : Base K) (hσ : a.fam = .normal → 0 < a.p2) : InDomain a.fam a.natural := by
  intro hn
  rw [Base.natural, hn]
  exact div_neg_of_neg_of_pos (neg_neg_of_pos (one_div_pos.2 (mul_pos (hσ hn) (hσ hn)))) two_pos

/-- `NormalMessage.natural` keeps mean and variance -/
theorem toNatural_moments {fn : Fn K} (hs : SqrtLaw fn) (a : Base K) (hn : a.fam = .normal) (hσ : 0 < a.p2) :
    a.toNatural.mean = a.mean ∧ a.toNatural.variance fn = a.variance fn := by
  -- `NaturalNormal.mean` is `invert_natural_parameters` of `NormalMessage`, written differently
  have hmean : -(a.p1 * (1 / (a.p2 * a.p2))) / (-(1 / (a.p2 * a.p2)) / 2) / 2 = a.p1 :=
    (show _ = -(1 / 2) * (a.p1 * (1 / (a.p2 * a.p2))) / (-(1 / (a.p2 * a.p2)) / 2) by ring).trans
      (congrArg Prod.fst (invert_calc hs .normal a.p1 a.p2 fun _ => hσ))
  have hprec : -(2 * (-(1 / (a.p2 * a.p2)) / 2)) = 1 / a.p2 * (1 / a.p2) := by ring
  simp only [Base.toNatural, Base.natural, Base.mean, Base.variance, hn, calcNatural]
  rw [hmean, hprec, hs.sqrt_mul_self (one_div_pos.2 hσ).le, one_div_one_div]
  exact ⟨rfl, rfl⟩

/-- what `from_sufficient_statistics` of `NormalMessage` returns, `σ` being the root of `m₂ − m₁²` -/
theorem fromSuff_normal {fn : Fn K} (hs : SqrtLaw fn) (m1 m2 ln : K) (id : Nat) {σ : K} (hσ : 0 < σ)
    (h : fn.sqrt (m2 - m1 * m1) = σ) :
    fromSuff fn .normal m1 m2 ln id = ⟨.normal, m1, σ, ln, id, fn.negInf, fn.posInf⟩ := by
  simp only [fromSuff, fromNatural, invertSuff, h, invert_calc hs .normal m1 σ fun _ => hσ]

end field

section sums
variable {K : Type} [Field K]

theorem sumL_map_div (ws : List K) (c : K) : sumL (ws.map (· / c)) = sumL ws / c := by
  induction ws with
  | nil => simp [sumL]
  | cons w ws ih => simp only [List.map, sumL, ih]; ring

theorem sumL_zipWith_div {α : Type} (f : α → K) (ts : List α) (ws : List K) (c : K) :
    sumL (List.zipWith (fun t w => f t * w) ts (ws.map (· / c))) =
      sumL (List.zipWith (fun t w => f t * w) ts ws) / c := by
  induction ts generalizing ws with
  | nil => simp [sumL]
  | cons t ts ih =>
    cases ws with
    | nil => simp [sumL]
    | cons w ws => simp only [List.map, List.zipWith, sumL, ih]; ring

theorem length_zipWith_map {α β γ : Type} (f : α → β → γ) (g : β → β) (xs : List α) (ws : List β) :
    (List.zipWith f xs (ws.map g)).length = (List.zipWith f xs ws).length := by
  simp

/-- `project` divides the weights by their mean and then takes the mean of `f t * w`: the weighted mean of `f`,
for any statistic `f` of the samples -/
theorem meanL_zipWith_normalised [CharZero K] {α : Type} (f : α → K) (ts : List α) (ws : List K)
    (hlen : ts.length = ws.length) (hn : ts ≠ []) :
    meanL (List.zipWith (fun t w => f t * w) ts (ws.map (· / meanL ws))) =
      sumL (List.zipWith (fun t w => f t * w) ts ws) / sumL ws := by
  have hl : (ws.length : K) ≠ 0 := by
    rw [← hlen]; exact Nat.cast_ne_zero.2 (mt List.length_eq_zero_iff.1 hn)
  unfold meanL
  rw [sumL_zipWith_div, List.length_zipWith, List.length_map, hlen, min_self, div_div, div_mul_cancel₀ _ hl]

end sums

section ops
variable {K : Type} [Field K]

theorem Base.mul_eq (fn : Fn K) (a : Base K) (eb : K × K) (hf : a.fam ≠ .fixed) :
    a.mul fn eb = fromNatural fn a.fam (a.natural.1 + eb.1, a.natural.2 + eb.2) 0 a.id a.lower a.upper := by
  unfold Base.mul; split
  · next h => exact absurd h hf
  · rfl

theorem Base.div_eq (fn : Fn K) (a : Base K) (eb : K × K) (lb : K) (hf : a.fam ≠ .fixed) :
    a.div fn eb lb =
      fromNatural fn a.fam (a.natural.1 - eb.1, a.natural.2 - eb.2) (a.logNorm - lb) a.id a.lower a.upper := by
  unfold Base.div; split
  · next h => exact absurd h hf
  · rfl

theorem Base.pow_eq (fn : Fn K) (a : Base K) (k : K) (hf : a.fam ≠ .fixed) :
    a.pow fn k = fromNatural fn a.fam (k * a.natural.1, k * a.natural.2) (k * a.logNorm) a.id a.lower a.upper := by
  unfold Base.pow; split
  · next h => exact absurd h hf
  · rfl

theorem Base.smul_eq (fn : Fn K) (a : Base K) (c : K) (hf : a.fam ≠ .fixed) :
    a.smul fn c = { a with logNorm := a.logNorm + fn.log c } := by
  unfold Base.smul; split
  · next h => exact absurd h hf
  · rfl

/-- the wrapper of a transformed message: transform stack, id, limits -/
def M.shell : M K → Option (List (Tr K) × Option Nat × K × K)
  | .plain _ => none
  | .transformed t => some (t.trs, t.id, t.lower, t.upper)

@[simp] theorem M.lift_base (m : M K) (f : Base K → Base K) : (m.lift f).base = f m.base := by
  cases m <;> rfl

@[simp] theorem M.lift_shell (m : M K) (f : Base K → Base K) : (m.lift f).shell = m.shell := by
  cases m <;> rfl

@[simp] theorem M.lift_trs (m : M K) (f : Base K → Base K) : (m.lift f).trs = m.trs := by
  cases m <;> rfl

/-- class, id and limits of a base message -/
def Base.ident (a : Base K) : Family × Nat × K × K := (a.fam, a.id, a.lower, a.upper)

theorem Base.mul_ident (fn : Fn K) (a : Base K) (eb : K × K) : (a.mul fn eb).ident = a.ident := by
  unfold Base.mul; split <;> rfl

theorem Base.div_ident (fn : Fn K) (a : Base K) (eb : K × K) (lb : K) : (a.div fn eb lb).ident = a.ident := by
  unfold Base.div; split <;> rfl

theorem Base.pow_ident (fn : Fn K) (a : Base K) (k : K) : (a.pow fn k).ident = a.ident := by
  unfold Base.pow; split <;> rfl

theorem Base.smul_ident (fn : Fn K) (a : Base K) (c : K) : (a.smul fn c).ident = a.ident := by
  unfold Base.smul; split <;> rfl

theorem Base.sdiv_ident (fn : Fn K) (a : Base K) (c : K) : (a.sdiv fn c).ident = a.ident := rfl

/-! Plain or transformed operands: unless the left operand is a `FixedMessage`, the base message of the result is
`from_natural_parameters` of the combined natural parameters; its class is the left operand's in any case. -/

theorem M.mul_base (fn : Fn K) (a b : M K) (hf : a.base.fam ≠ .fixed) :
    (M.mul fn a b).base = fromNatural fn a.base.fam (a.natural.1 + b.natural.1, a.natural.2 + b.natural.2) 0
      a.base.id a.base.lower a.base.upper := by
  rw [M.mul, M.lift_base]; exact Base.mul_eq fn _ _ hf

theorem M.div_base (fn : Fn K) (a b : M K) (hf : a.base.fam ≠ .fixed) :
    (M.div fn a b).base = fromNatural fn a.base.fam (a.natural.1 - b.natural.1, a.natural.2 - b.natural.2)
      (a.base.logNorm - b.base.logNorm) a.base.id a.base.lower a.base.upper := by
  rw [M.div, M.lift_base]; exact Base.div_eq fn _ _ _ hf

theorem M.pow_base (fn : Fn K) (a : M K) (k : K) (hf : a.base.fam ≠ .fixed) :
    (M.pow fn a k).base = fromNatural fn a.base.fam (k * a.natural.1, k * a.natural.2) (k * a.base.logNorm)
      a.base.id a.base.lower a.base.upper := by
  rw [M.pow, M.lift_base]; exact Base.pow_eq fn _ _ hf

theorem M.mul_fam (fn : Fn K) (a b : M K) : (M.mul fn a b).base.fam = a.base.fam := by
  rw [M.mul, M.lift_base]; exact congrArg (·.1) (Base.mul_ident fn _ _)

theorem M.div_fam (fn : Fn K) (a b : M K) : (M.div fn a b).base.fam = a.base.fam := by
  rw [M.div, M.lift_base]; exact congrArg (·.1) (Base.div_ident fn _ _ _)

theorem M.pow_fam (fn : Fn K) (a : M K) (k : K) : (M.pow fn a k).base.fam = a.base.fam := by
  rw [M.pow, M.lift_base]; exact congrArg (·.1) (Base.pow_ident fn _ _)

end ops

section vocabulary
variable {K : Type} [Field K]

/-- the `n+1`-fold product `a * a * … * a` -/
def prodN (fn : Fn K) (a : M K) : Nat → M K
  | 0 => a
  | n + 1 => M.mul fn (prodN fn a n) a

/-- transform `t` is undone by its inverse at the point `y` -/
def InvAt (fn : Fn K) (t : Tr K) (y : K) : Prop := t.inv fn (t.apply fn y) = y

/-- every transform of the stack is undone by its inverse at the point where `_transform` applies it -/
def ChainOK (fn : Fn K) : List (Tr K) → K → Prop
  | [], _ => True
  | t :: rest, x => ChainOK fn rest x ∧ InvAt fn t (transformChain fn rest x)

end vocabulary

end AF.Msg
