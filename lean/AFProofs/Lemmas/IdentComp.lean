import AFModel.IdentComp

/-! Lemmas for C07. The token functions of `AFModel/Ident.lean` and `AFModel/IdentComp.lean` are `flatMap`s, so
appending distributes and a change at one place of a list changes the whole; then the reflection of a
composition and its closed-form tokens. -/

namespace AF.IdentComp
open AF

theorem flatMap_eq_at_iff {α β : Type} (g : α → List β) (pre post : List α) {a b : α} :
    (pre ++ a :: post).flatMap g = (pre ++ b :: post).flatMap g ↔ g a = g b := by
  simp only [List.flatMap_append, List.flatMap_cons, List.append_cancel_left_eq, List.append_cancel_right_eq]

theorem tokensFields_eq (keep) : ∀ (d : List (String × PyVal)),
    tokensFields keep d = d.flatMap fun kv => if keep kv.1 && !skipKey kv.1 then kv.1 :: tokens kv.2 else []
  | [] => rfl
  | (k, v) :: rest => by simp only [tokensFields, tokensFields_eq keep rest, List.flatMap_cons]

theorem tokensList_eq : ∀ (l : List PyVal), tokensList l = l.flatMap tokens
  | [] => rfl
  | v :: rest => by simp only [tokensList, tokensList_eq rest, List.flatMap_cons]

theorem ctokensAttrs_eq (keep) : ∀ (d : List (String × CNode)),
    ctokensAttrs keep d = d.flatMap fun kv => if keep kv.1 && !skipKey kv.1 then kv.1 :: ctokens kv.2 else []
  | [] => rfl
  | (k, v) :: rest => by simp only [ctokensAttrs, ctokensAttrs_eq keep rest, List.flatMap_cons]

theorem ctokensList_eq : ∀ (l : List CNode), ctokensList l = l.flatMap ctokens
  | [] => rfl
  | v :: rest => by simp only [ctokensList, ctokensList_eq rest, List.flatMap_cons]

theorem fields_eq_iff (keep) (pre post : List (String × PyVal)) (k : String) (v v' : PyVal)
    (hk : keep k = true) (hs : skipKey k = false) :
    tokensFields keep (pre ++ (k, v) :: post) = tokensFields keep (pre ++ (k, v') :: post) ↔ tokens v = tokens v' := by
  rw [tokensFields_eq, tokensFields_eq, flatMap_eq_at_iff]
  simp [hk, hs]

theorem cattrs_eq_iff (keep) (pre post : List (String × CNode)) (k : String) (v w : CNode)
    (hk : keep k = true) (hs : skipKey k = false) :
    ctokensAttrs keep (pre ++ (k, v) :: post) = ctokensAttrs keep (pre ++ (k, w) :: post) ↔ ctokens v = ctokens w := by
  rw [ctokensAttrs_eq, ctokensAttrs_eq, flatMap_eq_at_iff]
  simp [hk, hs]

theorem cattrs_name_sensitive (keep) (pre post : List (String × CNode)) (k j : String) (v : CNode)
    (hk : keep k = true) (hs : skipKey k = false) (hj : keep j = true) (hsj : skipKey j = false) (h : k ≠ j) :
    ctokensAttrs keep (pre ++ (k, v) :: post) ≠ ctokensAttrs keep (pre ++ (j, v) :: post) := by
  rw [ctokensAttrs_eq, ctokensAttrs_eq, ne_eq, flatMap_eq_at_iff]
  simp [hk, hs, hj, hsj, h]

/-! Whether a literal key is private is checked by evaluation, as the side condition of the next two lemmas. -/

theorem tokensFields_cons_skip (keep) (k : String) (v : PyVal) (rest : List (String × PyVal)) (h : skipKey k = true) :
    tokensFields keep ((k, v) :: rest) = tokensFields keep rest := by
  simp [tokensFields, h]

theorem tokensFields_cons_public (k : String) (v : PyVal) (rest : List (String × PyVal)) :
    tokensFields (fun _ => true) ((k, v) :: rest)
      = (if skipKey k then [] else k :: tokens v) ++ tokensFields (fun _ => true) rest := by
  cases h : skipKey k <;> simp [tokensFields, h]

theorem metaFields_skipped (keep : String → Bool) (m : Meta) (rest : List (String × PyVal)) :
    tokensFields keep (m.fields ++ rest) = tokensFields keep rest := by
  simp (disch := decide +kernel) only [Meta.fields, List.cons_append, List.nil_append, tokensFields_cons_skip]

theorem arithPrivate_skipped (keep : String → Bool) (a b c d : PyVal) (rest : List (String × PyVal)) :
    tokensFields keep (("_left_name", a) :: ("_right_name", b) :: ("_left", c) :: ("_right", d) :: rest)
      = tokensFields keep rest := by
  simp (disch := decide +kernel) only [tokensFields_cons_skip]

theorem modifPrivate_skipped (keep : String → Bool) (a : PyVal) (rest : List (String × PyVal)) :
    tokensFields keep (("_prior_name", a) :: rest) = tokensFields keep rest :=
  tokensFields_cons_skip _ _ _ _ (by decide +kernel)

theorem tokensList_natVals (l : List Nat) : tokensList (natVals l) = natTokens l := by
  simp only [tokensList_eq, natVals, natTokens, List.flatMap_map, tokens]
  exact List.map_eq_flatMap.symm

theorem tokensList_indices (ix : List (List Nat)) :
    tokensList (ix.map (fun i => PyVal.iter (natVals i))) = indexTokens ix := by
  induction ix with
  | nil => simp [indexTokens, tokensList]
  | cons a l ih => simp [indexTokens, tokensList, tokens, tokensList_natVals, ih]

theorem tokens_priorIdFields (k : PriorKind) (lo hi mean sigma : UInt64) :
    tokensFields (fun _ => true) (priorIdFields k lo hi mean sigma) = priorTokens k lo hi mean sigma := by
  cases h : k.hasMeanSigma <;>
    simp (disch := decide +kernel) only [priorIdFields, priorTokens, h, tokensFields_cons_public, if_neg, tokens,
      tokensFields.eq_1, List.cons_append, List.nil_append, List.append_nil, if_true]

theorem tokens_modelObject (cls : String) (m : Meta) (rest : List (String × PyVal)) :
    tokens (.obj cls true none [] none (m.fields ++ rest)) = cls :: tokensFields (fun _ => true) rest := by
  have h : keepField true [] none = fun _ => true := funext fun k => by simp [keepField]
  simp only [tokens, h, metaFields_skipped]

mutual
theorem tokens_reflect : ∀ (t : CNode), tokens (reflect t) = ctokens t
  | .prior m k lo hi mean sigma => by simp only [reflect, tokens, ctokens, tokens_priorIdFields]
  | .flt b => rfl
  | .int i => rfl
  | .bool b => rfl
  | .str s => rfl
  | .none => rfl
  | .model m path attrs => by
      simp (disch := decide +kernel) only [reflect, tokens_modelObject, ctokens, tokensFields_cons_public, if_neg,
        tokens, tokensFields_reflectAttrs, List.cons_append, List.nil_append]
  | .coll m n attrs => by
      simp (disch := decide +kernel) only [reflect, tokens_modelObject, ctokens, tokensFields_cons_public, if_neg,
        tokens, tokensFields_reflectAttrs, List.cons_append, List.nil_append]
  | .tuple m attrs => by simp only [reflect, tokens_modelObject, ctokens, tokensFields_reflectAttrs]
  | .arith m op ln rn l r => by
      simp only [reflect, List.append_assoc, tokens_modelObject, ctokens, List.cons_append, List.nil_append,
        arithPrivate_skipped]
      split <;>
        simp only [tokensFields_cons_public, tokensFields.eq_1, List.append_nil, tokens_reflect l, tokens_reflect r]
  | .modif m op name x => by
      simp only [reflect, tokens_modelObject, ctokens, modifPrivate_skipped, tokensFields_cons_public,
        tokensFields.eq_1, List.append_nil, tokens_reflect x]
  | .array m shape indices attrs => by
      simp (disch := decide +kernel) only [reflect, tokens_modelObject, ctokens, tokensFields_cons_public, if_neg,
        tokens, tokensFields_reflectAttrs, tokensList_natVals, tokensList_indices, List.cons_append]
  | .inst cls ctor d => by simp only [reflect, tokens, ctokens, tokensFields_reflectAttrs]
  | .minst m attrs => by simp only [reflect, tokens_modelObject, ctokens, tokensFields_reflectAttrs]
  | .seq items => by simp only [reflect, tokens, ctokens, tokensList_reflectList]
theorem tokensFields_reflectAttrs : ∀ (keep : String → Bool) (attrs : List (String × CNode)),
    tokensFields keep (reflectAttrs attrs) = ctokensAttrs keep attrs
  | _, [] => rfl
  | keep, (k, v) :: rest => by
      simp only [reflectAttrs, tokensFields, ctokensAttrs, tokensFields_reflectAttrs keep rest, tokens_reflect v]
theorem tokensList_reflectList : ∀ (l : List CNode), tokensList (reflectList l) = ctokensList l
  | [] => rfl
  | v :: rest => by
      simp only [reflectList, tokensList, ctokensList, tokensList_reflectList rest, tokens_reflect v]
end

mutual
theorem ctokens_mapMeta (f : Meta → Meta) : ∀ (t : CNode), ctokens (t.mapMeta f) = ctokens t
  | .prior m k lo hi mean sigma => rfl
  | .flt b => rfl
  | .int i => rfl
  | .bool b => rfl
  | .str s => rfl
  | .none => rfl
  | .model m path attrs => by simp only [CNode.mapMeta, ctokens, ctokensAttrs_mapMeta f _ attrs]
  | .coll m n attrs => by simp only [CNode.mapMeta, ctokens, ctokensAttrs_mapMeta f _ attrs]
  | .tuple m attrs => by simp only [CNode.mapMeta, ctokens, ctokensAttrs_mapMeta f _ attrs]
  | .arith m op ln rn l r => by simp only [CNode.mapMeta, ctokens, ctokens_mapMeta f l, ctokens_mapMeta f r]
  | .modif m op name x => by simp only [CNode.mapMeta, ctokens, ctokens_mapMeta f x]
  | .array m shape indices attrs => by simp only [CNode.mapMeta, ctokens, ctokensAttrs_mapMeta f _ attrs]
  | .inst cls ctor d => by simp only [CNode.mapMeta, ctokens, ctokensAttrs_mapMeta f _ d]
  | .minst m attrs => by simp only [CNode.mapMeta, ctokens, ctokensAttrs_mapMeta f _ attrs]
  | .seq items => by simp only [CNode.mapMeta, ctokens, ctokensList_mapMeta f items]
theorem ctokensAttrs_mapMeta (f : Meta → Meta) : ∀ (keep : String → Bool) (attrs : List (String × CNode)),
    ctokensAttrs keep (mapMetaAttrs f attrs) = ctokensAttrs keep attrs
  | _, [] => rfl
  | keep, (k, v) :: rest => by
      simp only [mapMetaAttrs, ctokensAttrs, ctokensAttrs_mapMeta f keep rest, ctokens_mapMeta f v]
theorem ctokensList_mapMeta (f : Meta → Meta) : ∀ (l : List CNode), ctokensList (mapMetaList f l) = ctokensList l
  | [] => rfl
  | v :: rest => by simp only [mapMetaList, ctokensList, ctokensList_mapMeta f rest, ctokens_mapMeta f v]
end

theorem cstep_eq_iff (s : CStep) (hv : s.visible) (v w : CNode) :
    ctokens (s.plug v) = ctokens (s.plug w) ↔ ctokens v = ctokens w := by
  cases s with
  | modelAttr m path pre k post =>
    simp only [CStep.plug, ctokens, List.cons.injEq, true_and]
    exact cattrs_eq_iff _ pre post k v w rfl hv
  | collAttr m n pre k post =>
    simp only [CStep.plug, ctokens, List.cons.injEq, true_and]
    exact cattrs_eq_iff _ pre post k v w rfl hv
  | tupleAttr m pre k post =>
    simp only [CStep.plug, ctokens, List.cons.injEq, true_and]
    exact cattrs_eq_iff _ pre post k v w rfl hv
  | arrayAttr m sh ix pre k post =>
    simp only [CStep.plug, ctokens, List.cons.injEq, true_and, List.append_cancel_left_eq]
    exact cattrs_eq_iff _ pre post k v w rfl hv
  | instAttr cls ctor pre k post =>
    simp only [CStep.plug, ctokens, List.cons.injEq, true_and]
    exact cattrs_eq_iff _ pre post k v w hv.1 hv.2
  | minstAttr m pre k post =>
    simp only [CStep.plug, ctokens, List.cons.injEq, true_and]
    exact cattrs_eq_iff _ pre post k v w rfl hv
  | arithLeft m op ln rn r =>
    simp only [CStep.plug, ctokens, hv.1, hv.2, if_false, List.cons.injEq, true_and, Bool.false_eq_true,
      List.cons_append, List.append_cancel_right_eq]
  | arithRight m op ln rn l =>
    have hv : skipKey rn = false := hv
    by_cases hne : ln = rn <;>
      simp only [CStep.plug, ctokens, hne, hv, if_true, if_false, List.cons.injEq, true_and,
        Bool.false_eq_true, List.append_cancel_left_eq]
  | modifArg m op name =>
    have hv : skipKey name = false := hv
    simp only [CStep.plug, ctokens, hv, if_false, List.cons.injEq, true_and, Bool.false_eq_true]
  | seqElem pre post =>
    simp only [CStep.plug, ctokens, ctokensList_eq]
    exact flatMap_eq_at_iff ctokens pre post

end AF.IdentComp
