import AFProofs.Lemmas.Grid
import AFProofs.Lemmas.Persist
import AFModel.GridComp

/-! Lemmas for `AFModel/GridComp.lean` (property C16): the id map `cellSigma` of a cell and the places of the
cell's model. -/

namespace AF.Grid
open AF

section
variable (gridIds fresh : List Nat)

theorem cellSigma_not_mem (id : Nat) (h : id ∉ gridIds) :
    cellSigma gridIds fresh id = id := by
  rw [cellSigma, List.idxOf?_eq_none_iff.mpr h]

theorem cellSigma_mem (i id new : Nat) (hnd : gridIds.Nodup)
    (hi : gridIds[i]? = some id) (hf : fresh[i]? = some new) : cellSigma gridIds fresh id = new := by
  rw [cellSigma, idxOf?_of_nodup gridIds i id hnd hi]
  simp [hf]

theorem cellSigma_of_mem (id : Nat) (hl : fresh.length = gridIds.length)
    (h : id ∈ gridIds) :
    ∃ i : Nat, gridIds[i]? = some id ∧ fresh[i]? = some (cellSigma gridIds fresh id) := by
  cases hi : gridIds.idxOf? id with
  | none => exact absurd h (List.idxOf?_eq_none_iff.mp hi)
  | some i =>
    obtain ⟨hlt, e, _⟩ := List.idxOf?_eq_some_iff.mp hi
    have hlt' : i < fresh.length := hl ▸ hlt
    refine ⟨i, List.getElem?_eq_some_iff.mpr ⟨hlt, e⟩, ?_⟩
    simp only [cellSigma, hi, List.getD_eq_getElem?_getD, List.getElem?_eq_getElem hlt',
      Option.getD_some]

theorem cellSigma_mem_fresh (id : Nat) (hl : fresh.length = gridIds.length)
    (h : id ∈ gridIds) : cellSigma gridIds fresh id ∈ fresh :=
  let ⟨_, _, hf⟩ := cellSigma_of_mem gridIds fresh id hl h
  List.mem_of_getElem? hf

/-- no two parameters of the model are merged -/
theorem cellSigma_injOn (ids : List Nat) (hl : fresh.length = gridIds.length)
    (hf : fresh.Nodup) (hd : ∀ x ∈ fresh, x ∉ ids) :
    ∀ i ∈ ids, ∀ j ∈ ids, cellSigma gridIds fresh i = cellSigma gridIds fresh j → i = j := by
  intro i hi j hj h
  by_cases gi : i ∈ gridIds <;> by_cases gj : j ∈ gridIds
  · -- both are grid priors: their positions coincide because `fresh` has no repetition
    obtain ⟨a, ga, fa⟩ := cellSigma_of_mem gridIds fresh i hl gi
    obtain ⟨b, gb, fb⟩ := cellSigma_of_mem gridIds fresh j hl gj
    have hab : a = b :=
      (List.getElem?_inj (List.getElem?_eq_some_iff.mp fa).1 hf).mp (by rw [fa, fb, h])
    rw [hab, gb] at ga
    exact (Option.some.inj ga).symm
  · have := cellSigma_mem_fresh gridIds fresh i hl gi
    rw [h, cellSigma_not_mem gridIds fresh j gj] at this
    exact absurd hj (hd j this)
  · have := cellSigma_mem_fresh gridIds fresh j hl gj
    rw [← h, cellSigma_not_mem gridIds fresh i gi] at this
    exact absurd hi (hd i this)
  · rwa [cellSigma_not_mem gridIds fresh i gi, cellSigma_not_mem gridIds fresh j gj] at h

end

theorem walk_cellComp {V} (t : Node V) (gridIds fresh : List Nat) :
    walk (cellComp t gridIds fresh) = (walk t).map (fun x => (x.1, cellSigma gridIds fresh x.2)) :=
  walk_rename _ t

theorem mem_pathPriors {V} (t : Node V) (x : Path × Nat) : x ∈ pathPriors t ↔ x ∈ walk t :=
  (perm_sortById (walk t)).mem_iff

theorem mem_walk_cellComp {V} (t : Node V) (gridIds fresh : List Nat) (p : Path) (id : Nat)
    (hm : (p, id) ∈ walk t) :
    (p, cellSigma gridIds fresh id) ∈ walk (cellComp t gridIds fresh) ∧
    (p, cellSigma gridIds fresh id) ∈ pathPriors (cellComp t gridIds fresh) := by
  have h : (p, cellSigma gridIds fresh id) ∈ walk (cellComp t gridIds fresh) := by
    rw [walk_cellComp]
    exact List.mem_map.mpr ⟨(p, id), hm, rfl⟩
  exact ⟨h, (mem_pathPriors _ _).mpr h⟩

end AF.Grid
