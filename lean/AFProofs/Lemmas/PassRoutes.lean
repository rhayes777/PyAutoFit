import AFModel.PassRoutes
import AFProofs.Lemmas.SamplesConv

/-! The way of a vector through keys and groups (`AFModel/PassRoutes.lean`) is the way of a sample
(`AFModel/SamplesConv.lean`), so the round trip of C05 is the round trip of C12. -/

namespace AF.PassRoutesL
open AF AF.Samples

theorem lookupPath_eq_kwGet {V : Type} (kw : List (Path × V)) (p : Path) : lookupPath kw p = kwGet kw p := by
  rw [lookupPath, kwGet, funext fun e : Path × V => Bool.beq_eq_decide_eq e.1 p]

theorem vectorOfKwargs_eq {V : Type} (kw : List (Path × V)) (groups : List (List Path)) :
    vectorOfKwargs kw groups = groups.map (firstFound kw) := by
  rw [vectorOfKwargs, funext (lookupPath_eq_kwGet kw)]
  exact List.map_congr_left fun g _ => (firstFound_eq_findSome? kw g).symm

theorem map_firstFound_of_paramsForPaths {K V : Type} [DecidableEq K] (kw : List (K × V)) :
    ∀ (groups : List (List K)) (params : List V), paramsForPaths kw groups = some params →
      groups.map (firstFound kw) = params.map some
  | [], _, h => by cases h; rfl
  | g :: gs, params, h => by
    rw [paramsForPaths] at h
    split at h
    · next v vs hg hgs =>
      cases h
      rw [List.map_cons, hg, map_firstFound_of_paramsForPaths kw gs vs hgs]
      rfl
    · cases h

theorem vectorOfKwargs_of_keysOK {V : Type} {keys : List Path} {groups : List (List Path)} (hK : KeysOK keys groups)
    (v : List V) (hv : v.length = keys.length) : vectorOfKwargs (keys.zip v) groups = v.map some := by
  rw [vectorOfKwargs_eq]
  exact map_firstFound_of_paramsForPaths _ _ _ (kwargs_roundtrip keys groups v hK hv)

end AF.PassRoutesL
