import AFModel.EPPlate
import AFProofs.Lemmas.EP

/-! Helper lemmas for the plate / array part of C18 (`AFModel/EPPlate.lean`): taking element `i` of
every array commutes with everything the bookkeeping does. Core Lean only. -/

namespace AF.EP

variable {G : Type} {I : Type}

theorem lookup_sliceField (i : I) (q : Field (I → G)) (v : Nat) :
    lookup (sliceField i q) v = (lookup q v).map (fun x => x i) :=
  lookup_map_val q (fun _ x => x i) v

theorem get_sliceState (i : I) (s : State (I → G)) (f v : Nat) :
    (sliceState i s).get f v = (s.get f v).map (fun x => x i) := by
  unfold sliceState
  rw [get_eq_lookup, lookup_map_val s (fun _ fld => sliceField i fld) f, get_eq_lookup]
  cases lookup s f with
  | none => rfl
  | some fld => exact lookup_sliceField i fld v

theorem present_slice (i : I) (s : State (I → G)) (v : Nat) (l : List Nat) :
    present (sliceState i s) v l = present s v l := by
  simp [present, get_sliceState]

section
variable [EtaSpace G]

theorem val_map (i : I) (o : Option (I → G)) : val (o.map (fun x => x i)) = (val o) i := by
  cases o <;> rfl

theorem total_slice (i : I) (s : State (I → G)) (v : Nat) (l : List Nat) :
    total (sliceState i s) v l = (total s v l) i := by
  induction l with
  | nil => rfl
  | cons g rest ih =>
    show val ((sliceState i s).get g v) + total (sliceState i s) v rest =
      (val (s.get g v) + total s v rest) i
    rw [get_sliceState, val_map, ih]
    rfl

theorem cavity_slice (i : I) (fs : List Nat) (s : State (I → G)) (f v : Nat) :
    cavity fs (sliceState i s) f v = cavity fs s f v i :=
  total_slice i s v _

theorem cavityOpt_slice (i : I) (fs : List Nat) (s : State (I → G)) (f v : Nat) :
    cavityOpt fs (sliceState i s) f v = (cavityOpt fs s f v).map (fun x => x i) := by
  unfold cavityOpt cavity
  rw [get_sliceState, present_slice, total_slice]
  cases h : ((s.get f v).isSome && present s v (others fs f)) <;> simp [h]

theorem modelOpt_slice (i : I) (fs : List Nat) (s : State (I → G)) (f v : Nat) :
    modelOpt fs (sliceState i s) f v = (modelOpt fs s f v).map (fun x => x i) := by
  unfold modelOpt
  rw [get_sliceState, cavityOpt_slice, val_map]
  cases s.get f v <;> rfl

theorem globalOpt_slice (i : I) (fs : List Nat) (s : State (I → G)) (v : Nat) :
    globalOpt fs (sliceState i s) v = (globalOpt fs s v).map (fun x => x i) := by
  unfold globalOpt global
  rw [present_slice, total_slice]
  cases h : present s v fs <;> simp

theorem approx_slice (i : I) (fs : List Nat) (s : State (I → G)) (f : Nat) :
    sliceApprox i (approx fs s f) = approx fs (sliceState i s) f := by
  simp only [sliceApprox, approx]
  congr 1
  · funext v; exact (cavityOpt_slice i fs s f v).symm
  · funext v; exact (get_sliceState i s f v).symm
  · funext v; exact (modelOpt_slice i fs s f v).symm

theorem candidate_slice (i : I) (a : Approx (I → G)) (d : Option Rat) (v : Nat) (qv : I → G) :
    candidate (sliceApprox i a) d v (qv i) = (candidate a d v qv) i := by
  cases d <;> simp only [candidate, sliceApprox, val_map] <;> rfl

theorem newMsgArr_slice (valid : G → Bool) (i : I) (a : Approx (I → G)) (δ : Delta) (v : Nat)
    (qv : I → G) : newMsgArr valid a δ v qv i = newMsg valid (sliceApprox i a) δ v (qv i) := by
  have hold : (sliceApprox i a).old v = (a.old v).map (fun x => x i) := rfl
  unfold newMsgArr newMsg
  rw [candidate_slice, hold]
  cases a.old v with
  | none => exact (ite_self _).symm
  | some o => rfl

theorem newFieldArr_slice (valid : G → Bool) (i : I) (a : Approx (I → G)) (q : Field (I → G))
    (δ : Delta) :
    sliceField i (newFieldArr valid a q δ) = newField valid (sliceApprox i a) (sliceField i q) δ := by
  simp only [sliceField, newFieldArr, newField, List.map_map]
  apply List.map_congr_left
  intro p _
  obtain ⟨v, qv⟩ := p
  simp [newMsgArr_slice]

theorem projectArr_slice (valid : G → Bool) (i : I) (s : State (I → G)) (a : Approx (I → G))
    (q : Field (I → G)) (δ : Delta) :
    sliceState i (projectArr valid s a q δ) =
      project valid (sliceState i s) (sliceApprox i a) (sliceField i q) δ := by
  show (a.f, sliceField i (newFieldArr valid a q δ)) :: sliceState i s = _
  rw [newFieldArr_slice]
  rfl

theorem full_cancel_share (q c x : G) : ((q - (c + x)) + x) + c = q := by
  rw [EtaSpace.add_assoc, EtaSpace.add_comm x c]
  exact EtaSpace.sub_add_cancel q (c + x)

end

/-! ### plate indexing -/

theorem posOf_some (axes : List Axis) (i k : Nat) (h : posOf axes i = some k) :
    flatIdx axes k = i ∧ k < subSize axes := by
  unfold posOf at h
  have h1 := List.find?_some h
  have h2 := List.mem_of_find?_eq_some h
  simp at h1 h2
  exact ⟨h1, h2⟩

theorem posOf_none (axes : List Axis) (i : Nat) (h : posOf axes i = none) :
    ∀ k, k < subSize axes → flatIdx axes k ≠ i := by
  unfold posOf at h
  rw [List.find?_eq_none] at h
  intro k hk e
  exact h k (by simp [hk]) (by simp [e])

end AF.EP
