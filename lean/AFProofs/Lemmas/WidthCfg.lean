import AFModel.WidthCfg
import AFProofs.Lemmas.Sort

/-! `sortByLen` (`AFModel/WidthCfg.lean`): the first hit of a search through the sorted directory is a longest hit. -/

namespace AF.WidthCfgL
open AF

variable {V : Type}

/-- longest first -/
def Desc (c : Config V) : Prop := c.Pairwise (fun a b => b.path.length ≤ a.path.length)

theorem sortByLen_eq (c : Config V) : sortByLen c = sortBy (fun a b => b.path.length ≤ a.path.length) c :=
  eq_sortBy _ (ins := insertByLen) (fun _ => rfl) (fun _ _ _ => rfl) rfl (fun _ _ => rfl) c

theorem perm_sortByLen (c : Config V) : (sortByLen c).Perm c :=
  sortByLen_eq c ▸ perm_sortBy _ c

theorem mem_sortByLen (x : CEntry V) (c : Config V) : x ∈ sortByLen c ↔ x ∈ c :=
  (perm_sortByLen c).mem_iff

theorem desc_sortByLen (c : Config V) : Desc (sortByLen c) :=
  sortByLen_eq c ▸ sorted_sortBy (fun a b : CEntry V => b.path.length ≤ a.path.length)
    (fun a b => Nat.le_total b.path.length a.path.length) (fun _ _ _ hab hbc => Nat.le_trans hbc hab) c

theorem sortByLen_of_desc (c : Config V) (h : Desc c) : sortByLen c = c :=
  (sortByLen_eq c).trans (sortBy_of_sorted _ c h)

theorem find_desc_longest (p : CEntry V → Bool) (c : Config V) (hd : Desc c) (e : CEntry V)
    (h : c.find? p = some e) :
    e ∈ c ∧ p e = true ∧ ∀ e' ∈ c, p e' = true → e'.path.length ≤ e.path.length := by
  obtain ⟨hp, as, bs, rfl, has⟩ := List.find?_eq_some_iff_append.mp h
  refine ⟨by simp, hp, fun e' he' hp' => ?_⟩
  rcases List.mem_append.mp he' with ha | hb
  · have := has e' ha
    simp [hp'] at this
  · rcases List.mem_cons.mp hb with rfl | hb
    · exact Nat.le_refl _
    · exact (List.pairwise_cons.mp (List.pairwise_append.mp hd).2.1).1 e' hb

end AF.WidthCfgL
