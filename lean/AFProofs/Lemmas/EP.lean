import AFModel.EP
import AFProofs.Lemmas.ListFacts

/-! Lemmas for C18 (`AF.EP`). A product of messages does not depend on the order of the factors, so
over a duplicate-free list any one factor splits off from the others (its cavity). Core Lean only. -/

namespace AF.EP

variable {G : Type}

/-! ## algebra in an `EtaSpace` -/

section algebra
variable [EtaSpace G]

theorem zero_add (a : G) : 0 + a = a := by
  rw [EtaSpace.add_comm, EtaSpace.add_zero]

theorem add_left_comm (a b c : G) : a + (b + c) = b + (a + c) := by
  rw [← EtaSpace.add_assoc, EtaSpace.add_comm a b, EtaSpace.add_assoc]

theorem share_split (r : Rat) (m : G) : r • m + (1 - r) • m = m := by
  rw [← EtaSpace.add_smul, Rat.add_comm, Rat.sub_add_cancel, EtaSpace.one_smul]

/-- damped update: `(q^d * old^(1-d) / cavity^d) * cavity = q^d * (old * cavity)^(1-d)` -/
theorem damped_cancel (d : Rat) (q o c : G) :
    ((d • q + (1 - d) • o) - d • c) + c = d • q + (1 - d) • (o + c) := by
  rw [EtaSpace.smul_add, ← EtaSpace.add_assoc]
  -- the last `c` is `d • c + (1 - d) • c`; its first share cancels `- d • c`
  conv => lhs; rhs; rw [← share_split d c]
  rw [← EtaSpace.add_assoc, EtaSpace.sub_add_cancel]

theorem succ_smul (n : Nat) (m : G) : (((n + 1 : Nat) : Rat)) • m = m + ((n : Rat)) • m := by
  rw [Rat.natCast_add, Rat.add_comm, EtaSpace.add_smul]
  exact congrArg (· + _) (EtaSpace.one_smul m)

theorem smul_inv_cancel (n : Nat) (hn : n ≠ 0) (p : G) :
    ((n : Rat)) • ((1 / (n : Rat)) • p) = p := by
  rw [← EtaSpace.mul_smul, Rat.div_def, Rat.one_mul,
    Rat.mul_inv_cancel _ (mt Rat.natCast_eq_zero_iff.mp hn), EtaSpace.one_smul]

end algebra

/-! ## the store -/

theorem get_cons (s : State G) (f : Nat) (fld : Field G) (g v : Nat) :
    State.get ((f, fld) :: s) g v = if f = g then lookup fld v else s.get g v := by
  simp [State.get]

theorem lookup_map_val {H : Type} (q : Field G) (h : Nat → G → H) (v : Nat) :
    lookup (q.map (fun p => (p.1, h p.1 p.2))) v = (lookup q v).map (h v) := by
  induction q with
  | nil => simp [lookup]
  | cons p rest ih =>
    obtain ⟨k, x⟩ := p
    by_cases hk : k = v
    · subst hk; simp [lookup]
    · simp [lookup, hk, ih]

theorem lookup_map_key (l : List Nat) (h : Nat → G) (v : Nat) :
    lookup (l.map (fun w => (w, h w))) v = if l.contains v then some (h v) else none := by
  induction l with
  | nil => simp [lookup]
  | cons w rest ih =>
    by_cases hk : w = v
    · subst hk; simp [lookup]
    · have hk' : ¬ v = w := fun e => hk e.symm
      simp [lookup, hk, hk', ih]

theorem get_eq_lookup (s : State G) (f v : Nat) :
    s.get f v = (lookup s f).bind (fun fld => lookup fld v) := by
  induction s with
  | nil => rfl
  | cons p rest ih =>
    show (if p.1 == f then lookup p.2 v else State.get rest f v) =
      (if p.1 == f then some p.2 else lookup rest f).bind _
    rw [ih]
    cases p.1 == f <;> rfl

/-! ## lists of factors -/

theorem present_eq (s : State G) (v : Nat) (l : List Nat) :
    present s v l = (msgCount l s v != 0) := by
  induction l with
  | nil => rfl
  | cons g rest ih =>
    show ((s.get g v).isSome || present s v rest) = _
    unfold msgCount
    rw [List.filter_cons, ih]
    cases (s.get g v).isSome <;> rfl

theorem perm_cons_others (l : List Nat) (f : Nat) (hnd : l.Nodup) (hf : f ∈ l) :
    l.Perm (f :: others l f) := by
  unfold others
  rw [← hnd.erase_eq_filter f]
  exact List.perm_cons_erase hf

theorem msgCount_others (fs : List Nat) (s : State G) (v f : Nat) (hnd : fs.Nodup) (hf : f ∈ fs)
    (h : (s.get f v).isSome) : msgCount (others fs f) s v + 1 = msgCount fs s v := by
  unfold msgCount
  rw [((perm_cons_others fs f hnd hf).filter _).length_eq,
    List.filter_cons_of_pos (p := fun g => (s.get g v).isSome) h, List.length_cons]

/-! ## products of messages over lists of factors -/

section
variable [EtaSpace G]

theorem val_some (x : G) : val (some x) = x := rfl

theorem total_congr (s s' : State G) (v : Nat) (l : List Nat)
    (h : ∀ g ∈ l, s.get g v = s'.get g v) : total s v l = total s' v l := by
  induction l with
  | nil => rfl
  | cons g rest ih =>
    simp only [total]
    rw [h g List.mem_cons_self, ih (fun g' hg' => h g' (List.mem_cons_of_mem _ hg'))]

theorem total_perm (s : State G) (v : Nat) (l l' : List Nat) (h : l.Perm l') :
    total s v l = total s v l' := by
  induction h with
  | nil => rfl
  | cons x _ ih => simp only [total]; rw [ih]
  | swap x y l => simp only [total]; rw [add_left_comm]
  | trans _ _ ih1 ih2 => rw [ih1, ih2]

theorem total_const (s : State G) (v : Nat) (l : List Nat) (m : G)
    (h : ∀ g ∈ l, ∀ x, s.get g v = some x → x = m) :
    total s v l = ((msgCount l s v : Nat) : Rat) • m := by
  induction l with
  | nil => exact (EtaSpace.zero_smul m).symm
  | cons g rest ih =>
    have ih' := ih (fun g' hg' => h g' (List.mem_cons_of_mem _ hg'))
    simp only [total, msgCount] at ih' ⊢
    cases hg : s.get g v with
    | none => rw [List.filter_cons_of_neg (by simp [hg]), ih']; exact zero_add _
    | some x =>
      rw [List.filter_cons_of_pos (by simp [hg]), List.length_cons, succ_smul, ih',
        h g List.mem_cons_self x hg]
      rfl

theorem total_absent (s : State G) (v : Nat) (l : List Nat) (h : present s v l = false) :
    total s v l = 0 := by
  have hn : ∀ g ∈ l, s.get g v = none := fun g hg => by
    simpa using List.any_eq_false.mp h g hg
  clear h
  induction l with
  | nil => rfl
  | cons g rest ih =>
    show val (s.get g v) + total s v rest = 0
    rw [hn g List.mem_cons_self, ih fun g' hg' => hn g' (List.mem_cons_of_mem _ hg')]
    exact EtaSpace.add_zero 0

theorem val_cavityOpt (fs : List Nat) (s : State G) (f v : Nat) (h : (s.get f v).isSome) :
    val (cavityOpt fs s f v) = cavity fs s f v := by
  unfold cavityOpt
  cases hp : present s v (others fs f) with
  | true => simp [h, val]
  | false =>
    simp only [Bool.and_false, Bool.false_eq_true, if_false, val]
    exact (total_absent s v _ hp).symm

theorem cavityOpt_const (fs : List Nat) (s : State G) (f v : Nat) (m : G) (hnd : fs.Nodup)
    (hf : f ∈ fs) (hself : (s.get f v).isSome)
    (h : ∀ g ∈ others fs f, ∀ x, s.get g v = some x → x = m) :
    cavityOpt fs s f v =
      if msgCount fs s v = 1 then none else some (((msgCount fs s v - 1 : Nat) : Rat) • m) := by
  unfold cavityOpt cavity
  rw [total_const s v _ m h, ← msgCount_others fs s v f hnd hf hself, hself, Bool.true_and,
    Nat.add_sub_cancel, present_eq]
  cases msgCount (others fs f) s v <;> rfl

/-! ## one projection -/

theorem get_project (valid : G → Bool) (s : State G) (a : Approx G) (q : Field G) (δ : Delta)
    (g v : Nat) :
    (project valid s a q δ).get g v =
      if a.f = g then (lookup q v).map (newMsg valid a δ v) else s.get g v := by
  unfold project newField
  rw [get_cons, lookup_map_val q (fun v qv => newMsg valid a δ v qv)]

theorem newMsg_valid (valid : G → Bool) (a : Approx G) (δ : Delta) (v : Nat) (qv c : G)
    (hc : candidate a (δ.at v) v qv = c) (h : valid c = true) : newMsg valid a δ v qv = c := by
  simp [newMsg, hc, h]

theorem newMsg_invalid (valid : G → Bool) (a : Approx G) (δ : Delta) (v : Nat) (qv o : G)
    (h : valid (candidate a (δ.at v) v qv) = false) (ho : a.old v = some o) :
    newMsg valid a δ v qv = o := by
  simp [newMsg, h, ho]

theorem candidate_none (a : Approx G) (v : Nat) (qv : G) :
    candidate a none v qv = qv - val (a.cavity v) := rfl

theorem candidate_some (a : Approx G) (d : Rat) (v : Nat) (qv : G) :
    candidate a (some d) v qv = (d • qv + (1 - d) • val (a.old v)) - d • val (a.cavity v) := rfl

/-! ## initial messages -/

section init
variable (fs : List Nat) (scope : Nat → List Nat) (cnt : Nat → Nat) (prior : Nat → G)

theorem get_initState (g v : Nat) :
    (initState fs scope cnt prior).get g v =
      if fs.contains g && (scope g).contains v then some (initMsg (cnt v) (prior v)) else none := by
  unfold initState
  rw [get_eq_lookup, lookup_map_key fs _ g]
  cases fs.contains g
  · rfl
  · exact lookup_map_key (scope g) (fun w => initMsg (cnt w) (prior w)) v

theorem msgCount_initState (v : Nat) :
    msgCount fs (initState fs scope cnt prior) v = holders fs scope v := by
  unfold msgCount holders
  congr 1
  apply List.filter_congr
  intro g hg
  rw [get_initState]
  cases (scope g).contains v <;> simp [hg]

theorem cavityOpt_initState (f v : Nat) (hnd : fs.Nodup) (hf : f ∈ fs) (hv : v ∈ scope f) :
    cavityOpt fs (initState fs scope cnt prior) f v =
      if holders fs scope v = 1 then none
      else some (((holders fs scope v - 1 : Nat) : Rat) • initMsg (cnt v) (prior v)) := by
  rw [← msgCount_initState fs scope cnt prior v]
  apply cavityOpt_const fs _ f v _ hnd hf
  · rw [get_initState]; simp [hf, hv]
  · intro g _ x hx
    rw [get_initState] at hx
    split at hx
    · exact (Option.some.inj hx).symm
    · cases hx

end init

end

/-! ## the declarative graph -/

theorem mem_dedup (l : List Nat) (v : Nat) : v ∈ dedup l ↔ v ∈ l := by
  induction l with
  | nil => simp [dedup]
  | cons x rest ih =>
    simp only [dedup, List.mem_cons, List.mem_filter, ih]
    by_cases h : v = x
    · simp [h]
    · simp [h]

theorem dedup_nodup (l : List Nat) : (dedup l).Nodup := by
  induction l with
  | nil => simp [dedup]
  | cons x rest ih =>
    simp only [dedup]
    apply List.nodup_cons.mpr
    constructor
    · simp
    · exact ih.filter _

theorem scope_subset_priors (d : Decl) (f v : Nat) (hv : v ∈ d.scope f) : v ∈ d.priors := by
  unfold Decl.scope at hv
  by_cases h1 : f < d.nModel
  · rw [if_pos h1, mem_dedup, List.getD_eq_getElem?_getD, List.getElem?_eq_getElem h1] at hv
    exact (mem_dedup _ v).mpr (List.mem_flatten.mpr ⟨_, List.getElem_mem h1, hv⟩)
  · rw [if_neg h1] at hv
    cases h2 : d.ipf
    · rw [h2] at hv; cases hv
    · rw [h2, if_pos rfl] at hv; exact List.mem_of_getElem? (Option.mem_toList.mp hv)

theorem map_scope_factors (d : Decl) :
    d.factors.map d.scope =
      d.places.map dedup ++ if d.ipf then d.priors.map (fun p => [p]) else [] := by
  unfold Decl.factors
  rw [List.range_add, List.map_append, List.map_map]
  refine congr (congrArg _ ?_) ?_
  · refine (List.map_congr_left fun i hi => ?_).trans
      (map_range_getElem? d.places fun o => dedup (o.getD []))
    unfold Decl.scope
    rw [if_pos (List.mem_range.mp hi), List.getD_eq_getElem?_getD]
  · cases hi : d.ipf with
    | false => rfl
    | true =>
      rw [if_pos rfl, if_pos rfl]
      refine (List.map_congr_left fun j _ => ?_).trans (map_range_getElem? d.priors Option.toList)
      show Decl.scope d (d.nModel + j) = _
      unfold Decl.scope
      rw [if_neg (Nat.not_lt.mpr (Nat.le_add_right _ _)), if_pos hi, Nat.add_sub_cancel_left]

end AF.EP
