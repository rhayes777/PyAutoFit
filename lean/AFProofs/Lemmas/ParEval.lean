import AFModel.ParEval

/-!
The two pool state machines of `AFModel/ParEval.lean` (C14): for each the relation "this actor's turn takes `s` to
`s'`" with one case per queue interaction, proved once to contain the step function, and the inductive invariant
as a theorem about that relation.
-/

namespace AF.ParEval
variable {α : Type}

theorem lt_of_getElem?_some {β : Type} {l : List β} {i : Nat} {x : β} (h : l[i]? = some x) : i < l.length := by
  obtain ⟨hl, _⟩ := List.getElem?_eq_some_iff.mp h
  exact hl

theorem forall_set {β : Type} {Q : Nat → β → Prop} {ws : List β} {c : Nat} {x : β}
    (h : ∀ k w, k ≠ c → ws[k]? = some w → Q k w) (hx : Q c x) :
    ∀ k w, (ws.set c x)[k]? = some w → Q k w := by
  intro k w hk
  by_cases hkc : k = c
  · subst hkc
    rw [List.getElem?_set_self (by simpa using lt_of_getElem?_some hk)] at hk
    cases hk
    exact hx
  · rw [List.getElem?_set_ne (Ne.symm hkc)] at hk
    exact h k w hkc hk

theorem exists_set {β : Type} {R : β → Prop} {ws : List β} {c k : Nat} {w₀ x : β} (hc : ws[c]? = some w₀)
    (hx : k = c → R w₀ → R x) (h : ∃ w, ws[k]? = some w ∧ R w) : ∃ w, (ws.set c x)[k]? = some w ∧ R w := by
  obtain ⟨w, hk, hr⟩ := h
  by_cases hkc : k = c
  · subst hkc
    rw [hc] at hk
    cases hk
    exact ⟨x, List.getElem?_set_self (lt_of_getElem?_some hc), hx rfl hr⟩
  · exact ⟨w, by rw [List.getElem?_set_ne (Ne.symm hkc)]; exact hk, hr⟩

theorem set_of_getElem? {β : Type} {ws : List β} {k : Nat} {w : β} (h : ws[k]? = some w) : ws.set k w = ws := by
  obtain ⟨hlt, hw⟩ := List.getElem?_eq_some_iff.mp h
  rw [← hw, List.set_getElem_self hlt]

theorem sum_map_set {β : Type} (f : β → Nat) (ws : List β) (k : Nat) (w x : β) (h : ws[k]? = some w) :
    ((ws.set k x).map f).sum + f w = (ws.map f).sum + f x := by
  induction ws generalizing k with
  | nil => simp at h
  | cons a t ih =>
    cases k with
    | zero =>
      simp only [List.getElem?_cons_zero, Option.some.injEq] at h
      subst h
      simp only [List.set_cons_zero, List.map_cons, List.sum_cons]
      omega
    | succ k =>
      have := ih k (by simpa using h)
      simp only [List.set_cons_succ, List.map_cons, List.sum_cons]
      omega

theorem sum_map_eq_zero {β : Type} {f : β → Nat} {ws : List β} (h : ∀ w ∈ ws, f w = 0) : (ws.map f).sum = 0 :=
  List.sum_eq_zero_iff_forall_eq_nat.mpr fun x hx => by
    obtain ⟨w, hw, rfl⟩ := List.mem_map.mp hx
    exact h w hw

theorem drop_cons_getElem? {β : Type} {l : List β} {n : Nat} {r : β} {rest : List β}
    (h : l.drop n = r :: rest) : l[n]? = some r ∧ l.drop (n + 1) = rest ∧ n < l.length := by
  have h1 : (l.drop n).head? = some r := by rw [h]; rfl
  rw [List.head?_drop] at h1
  have h2 : (l.drop n).tail = rest := by rw [h]; rfl
  rw [List.tail_drop] at h2
  exact ⟨h1, h2, lt_of_getElem?_some h1⟩

section map
variable {js : List (Res α)} {s s' : MapSt α} {a : Nat}

theorem Worker.step_pipe (w : Worker α) : w.step.pipe = w.pipe := by
  unfold Worker.step Worker.pipe
  cases hh : w.hold with
  | some r => simp [List.append_assoc]
  | none =>
    cases hj : w.jobQ with
    | nil => simp [hh, hj]
    | cons j rest => simp

theorem Worker.step_pending (w : Worker α) : w.step.pending = w.pending := by
  unfold Worker.step
  cases hh : w.hold with
  | some r => rfl
  | none => cases hj : w.jobQ <;> rfl

theorem Worker.step_performed (w : Worker α) :
    w.step.performed ++ w.step.jobQ.map (·.id) = w.performed ++ w.jobQ.map (·.id) := by
  unfold Worker.step
  cases hh : w.hold with
  | some r => rfl
  | none =>
    cases hj : w.jobQ with
    | nil => simp [hj]
    | cons j rest => simp

theorem Worker.step_resQ_ne (w : Worker α) (h : w.resQ ≠ []) : w.step.resQ ≠ [] := by
  unfold Worker.step
  cases hh : w.hold with
  | some r => simp
  | none =>
    cases hj : w.jobQ with
    | nil => simpa [hh, hj] using h
    | cons j rest => simpa using h

theorem Worker.step_busy (w : Worker α) : w.step.jobQ.length ≤ w.jobQ.length := by
  unfold Worker.step
  cases hh : w.hold with
  | some r => simp
  | none =>
    cases hj : w.jobQ with
    | nil => simp [hj]
    | cons j rest => simp

theorem Worker.step_weight (w : Worker α) (h : w.hold ≠ none ∨ w.jobQ ≠ []) : w.step.weight + 1 = w.weight := by
  unfold Worker.step Worker.weight
  cases hh : w.hold with
  | some r => simp; omega
  | none =>
    cases hj : w.jobQ with
    | nil => rcases h with h | h <;> contradiction
    | cons j rest => simp; omega

def callerEn (s : MapSt α) : Prop :=
  s.todo ≠ [] ∨ (s.count < s.target ∧ ∃ (i : Nat) (w : Worker α), s.ws[i]? = some w ∧ w.resQ ≠ [])

def workerEn (s : MapSt α) (k : Nat) : Prop :=
  ∃ w : Worker α, s.ws[k]? = some w ∧ (w.hold ≠ none ∨ w.jobQ ≠ [])

/-- the step of this actor makes progress (for the caller: submits, collects, or moves its cursor towards a
non-empty result queue) -/
def enabled (s : MapSt α) : Nat → Prop
  | 0 => callerEn s
  | k + 1 => workerEn s k

/-- the state after the caller has visited worker `cursor` and taken nothing -/
def MapSt.passed (s : MapSt α) : MapSt α :=
  { s with cursor := if s.cursor + 1 < s.ws.length then s.cursor + 1 else 0 }

/-- a turn of actor `a` takes `s` to `s'`; apart from `stay` and `skip` every case is one of the queue interactions
`MapSt.mu` counts -/
inductive MapSt.Move (s : MapSt α) : Nat → MapSt α → Prop
  | stay {a : Nat} : ¬ enabled s a → Move s a s
  | submit {r : Res α} {rest : List (Res α)} {w : Worker α} :
      s.todo = r :: rest → s.ws[s.next % s.ws.length]? = some w →
      Move s 0 { s with todo := rest, next := s.next + 1,
                        ws := s.ws.set (s.next % s.ws.length)
                          { w with jobQ := w.jobQ ++ [⟨s.next, r⟩], pending := w.pending ++ [s.next] } }
  | collect {w : Worker α} {r : Res α} {rq : List (Res α)} {i : Nat} {pd : List Nat} :
      s.todo = [] → s.count < s.target → s.ws[s.cursor]? = some w → w.resQ = r :: rq → w.pending = i :: pd →
      Move s 0 { s.passed with ws := s.ws.set s.cursor { w with resQ := rq, pending := pd },
                               slots := s.slots.set i (some r), count := s.count + 1,
                               arrivals := s.arrivals ++ [r] }
  | skip : s.todo = [] → s.count < s.target → (∀ w, s.ws[s.cursor]? = some w → w.resQ = []) → Move s 0 s.passed
  | work {k : Nat} {w : Worker α} : s.ws[k]? = some w → (w.hold ≠ none ∨ w.jobQ ≠ []) →
      Move s (k + 1) { s with ws := s.ws.set k w.step, evalOrder := s.evalOrder ++ w.evaluates }

theorem MapSt.Move.length (m : s.Move a s') : s'.ws.length = s.ws.length := by
  cases m <;> simp [MapSt.passed]

theorem MapSt.Move.cursor (m : s.Move a s') (h : s.cursor < s.ws.length) : s'.cursor < s'.ws.length := by
  rw [m.length]
  cases m with
  | stay _ | submit _ _ | work _ _ => exact h
  | collect _ _ _ _ _ | skip _ _ _ => simp only [MapSt.passed]; split <;> omega

theorem MapSt.Move.performed {k : Nat} {p : List Nat} (m : s.Move a s') (h : a ≠ k + 1)
    (hp : ∃ w, s.ws[k]? = some w ∧ w.performed = p) : ∃ w, s'.ws[k]? = some w ∧ w.performed = p := by
  cases m with
  | stay _ => exact hp
  | skip _ _ _ => exact hp
  | submit _ hw => exact exists_set hw (fun _ h => h) hp
  | collect _ _ hw _ _ => exact exists_set hw (fun _ h => h) hp
  | work hw _ => exact exists_set hw (fun e => absurd (by rw [e]) h) hp

theorem MapSt.Move.persists {a b : Nat} (m : s.Move b s') (h : enabled s a) (hne : b ≠ a) : enabled s' a := by
  cases a with
  | zero =>
    cases m with
    | stay _ => exact h
    | work hw _ =>
      exact h.imp id (And.imp id fun ⟨i, hi⟩ => ⟨i, exists_set hw (fun _ => Worker.step_resQ_ne _) hi⟩)
    | submit _ _ => exact absurd rfl hne
    | collect _ _ _ _ _ => exact absurd rfl hne
    | skip _ _ _ => exact absurd rfl hne
  | succ k =>
    cases m with
    | stay _ => exact h
    | skip _ _ _ => exact h
    | submit _ hw => exact exists_set hw (fun _ hb => hb.imp id fun _ => by simp) h
    | collect _ _ hw _ _ => exact exists_set hw (fun _ hb => hb) h
    | work hw _ => exact exists_set hw (fun e => absurd (by rw [e]) hne) h

/-- positions handed out and not yet answered -/
def outstanding (ws : List (Worker α)) : Nat := (ws.map (fun w => w.pending.length)).sum

theorem outstanding_set (ws : List (Worker α)) (k : Nat) (w x : Worker α) (h : ws[k]? = some w) :
    outstanding (ws.set k x) + w.pending.length = outstanding ws + x.pending.length :=
  sum_map_set _ ws k w x h

theorem leftover_set (ws : List (Worker α)) (k : Nat) (w x : Worker α) (h : ws[k]? = some w) :
    leftover (ws.set k x) + w.pipe.length = leftover ws + x.pipe.length :=
  sum_map_set _ ws k w x h

/-- The inductive invariant of one `map` call on the batch `js` (outcomes of the inputs in input order). -/
structure MapInv (js : List (Res α)) (s : MapSt α) : Prop where
  pos : 0 < s.ws.length
  todo : s.todo = js.drop s.next
  next_le : s.next ≤ js.length
  target : s.target = js.length
  slen : s.slots.length = js.length
  /-- FIFO pipeline of every worker = outcomes of the positions the caller noted for it, in order -/
  pipe : ∀ (k : Nat) (w : Worker α), s.ws[k]? = some w → w.pipe.map some = w.pending.map (fun i => js[i]?)
  /-- worker `k` has performed / still has queued exactly the submitted positions `≡ k (mod P)`, in order -/
  perf : ∀ (k : Nat) (w : Worker α), s.ws[k]? = some w →
    w.performed ++ w.jobQ.map (·.id) = (List.range s.next).filter (fun i => i % s.ws.length == k)
  count : s.count + outstanding s.ws = s.next
  slots : ∀ i, i < js.length →
    s.slots[i]? = some (js[i]?) ∨
      (s.slots[i]? = some none ∧ (s.next ≤ i ∨ ∃ k : Nat, ∃ w : Worker α, s.ws[k]? = some w ∧ i ∈ w.pending))

def Quiescent (ws : List (Worker α)) : Prop := ∀ w ∈ ws, w.jobQ = [] ∧ w.hold = none ∧ w.resQ = []

theorem quiescent_newPool (P : Nat) : Quiescent (newPool P : List (Worker α)) := by
  intro w hw
  rw [(List.mem_replicate.mp hw).2]
  exact ⟨rfl, rfl, rfl⟩

theorem initMap_ws {ws : List (Worker α)} (js : List (Res α)) (hq : Quiescent ws) : ∀ w ∈ (initMap ws js).ws,
    w.jobQ = [] ∧ w.hold = none ∧ w.resQ = [] ∧ w.pending = [] ∧ w.performed = [] := by
  intro w hw
  obtain ⟨w0, h0, rfl⟩ := List.mem_map.mp hw
  obtain ⟨h1, h2, h3⟩ := hq w0 h0
  exact ⟨h1, h2, h3, rfl, rfl⟩

theorem mapInv_init (ws : List (Worker α)) (js : List (Res α)) (hq : Quiescent ws) (hp : ws ≠ []) :
    MapInv js (initMap ws js) := by
  have hw := fun k w (h : (initMap ws js).ws[k]? = some w) => initMap_ws js hq w (List.mem_of_getElem? h)
  refine ⟨by simpa [initMap] using List.length_pos_iff.mpr hp, rfl, Nat.zero_le _, rfl, by simp [initMap],
    ?_, ?_, ?_, fun i hi => Or.inr (by simp [initMap, hi])⟩
  · intro k w h
    obtain ⟨h1, h2, h3, h4, _⟩ := hw k w h
    simp [Worker.pipe, h1, h2, h3, h4]
  · intro k w h
    obtain ⟨h1, _, _, _, h5⟩ := hw k w h
    simp [initMap, h1, h5]
  · show 0 + outstanding (ws.map _) = 0
    rw [Nat.zero_add]
    exact sum_map_eq_zero fun w hw => by rw [(initMap_ws js hq w hw).2.2.2.1]; rfl

theorem MapInv.pending_ne (h : MapInv js s) {k : Nat} {w : Worker α}
    (hk : s.ws[k]? = some w) (hr : w.resQ ≠ []) : w.pending ≠ [] := by
  intro hp
  have := h.pipe k w hk
  rw [hp] at this
  simp [Worker.pipe, hr] at this

theorem mapInv_move (h : MapInv js s) (m : s.Move a s') : MapInv js s' := by
  have hpos := m.length ▸ h.pos
  cases m with
  | stay _ => exact h
  | skip _ _ _ => exact ⟨h.pos, h.todo, h.next_le, h.target, h.slen, h.pipe, h.perf, h.count, h.slots⟩
  | @work k w hk _ =>
    refine ⟨hpos, h.todo, h.next_le, h.target, h.slen, ?_, ?_, ?_, ?_⟩
    · exact forall_set (fun k w _ => h.pipe k w) (by rw [Worker.step_pipe, Worker.step_pending]; exact h.pipe _ _ hk)
    · simp only [List.length_set]
      exact forall_set (fun k w _ => h.perf k w) (by rw [Worker.step_performed]; exact h.perf _ _ hk)
    · have := outstanding_set s.ws k w w.step hk
      rw [Worker.step_pending] at this
      have := h.count
      show s.count + outstanding (s.ws.set k w.step) = s.next
      omega
    · intro i hi
      exact (h.slots i hi).imp_right (And.imp_right (Or.imp_right fun ⟨k', hk'⟩ =>
        ⟨k', exists_set hk (fun _ hm => by rw [Worker.step_pending]; exact hm) hk'⟩))
  | @submit r rest w ht hw =>
    obtain ⟨hjs, hrest, hlt⟩ := drop_cons_getElem? (h.todo ▸ ht)
    refine ⟨hpos, hrest.symm, hlt, h.target, h.slen, ?_, ?_, ?_, ?_⟩
    · refine forall_set (fun k w _ => h.pipe k w) ?_
      have := h.pipe _ _ hw
      simp only [Worker.pipe, List.map_append, ← List.append_assoc] at this ⊢
      rw [this]
      simp [hjs]
    · simp only [List.length_set, List.range_succ, List.filter_append]
      refine forall_set (fun k w hne hk => ?_) ?_
      · rw [h.perf k w hk]
        simp [Ne.symm hne]
      · simp only [List.map_append, ← List.append_assoc, h.perf _ _ hw]
        simp
    · have := outstanding_set s.ws _ w
        { w with jobQ := w.jobQ ++ [⟨s.next, r⟩], pending := w.pending ++ [s.next] } hw
      simp only [List.length_append, List.length_singleton] at this
      have := h.count
      show s.count + outstanding (s.ws.set _ _) = s.next + 1
      omega
    · intro i hi
      refine (h.slots i hi).imp_right (And.imp_right ?_)
      rintro (h2 | ⟨k', hk'⟩)
      · by_cases hin : i = s.next
        · exact Or.inr ⟨_, _, List.getElem?_set_self (lt_of_getElem?_some hw), by simp [hin]⟩
        · exact Or.inl (show s.next + 1 ≤ i by omega)
      · exact Or.inr ⟨k', exists_set hw (fun _ hm => by simp [hm]) hk'⟩
  | @collect w r rq i pd _ _ hc hr hp =>
    have hpipe := h.pipe _ _ hc
    simp only [Worker.pipe, hr, hp, List.cons_append, List.map_cons, List.cons.injEq] at hpipe
    obtain ⟨hri, htl⟩ := hpipe
    refine ⟨hpos, h.todo, h.next_le, h.target, by simpa using h.slen, ?_, ?_, ?_, ?_⟩
    · exact forall_set (fun k w _ => h.pipe k w) (by simpa [Worker.pipe] using htl)
    · simp only [List.length_set]
      exact forall_set (fun k w _ => h.perf k w) (h.perf _ w hc)
    · have := outstanding_set s.ws _ w { w with resQ := rq, pending := pd } hc
      simp only [hp, List.length_cons] at this
      have := h.count
      show s.count + 1 + outstanding (s.ws.set _ _) = s.next
      omega
    · intro j hj
      show (s.slots.set i (some r))[j]? = _ ∨ _
      by_cases hji : i = j
      · subst hji
        exact Or.inl (by rw [List.getElem?_set_self (by rw [h.slen]; exact hj), hri])
      · rw [List.getElem?_set_ne hji]
        refine (h.slots j hj).imp_right (And.imp_right (Or.imp_right fun ⟨k', hk'⟩ => ⟨k', exists_set hc ?_ hk'⟩))
        intro _ hm
        rw [hp] at hm
        exact (List.mem_cons.mp hm).resolve_left (Ne.symm hji)

theorem workerStep_blocked {k : Nat} {w : Worker α} (hk : s.ws[k]? = some w)
    (hh : w.hold = none) (hj : w.jobQ = []) : s.workerStep k = s := by
  have hs : w.step = w := by simp [Worker.step, hh, hj]
  have he : w.evaluates = [] := by simp [Worker.evaluates, hh, hj]
  simp only [MapSt.workerStep, hk, hs, he, List.append_nil, set_of_getElem? hk]

theorem step_move (h : MapInv js s) (e : Nat) : s.Move e (s.step e) := by
  cases e with
  | zero =>
    show s.Move 0 s.mainStep
    unfold MapSt.mainStep
    cases ht : s.todo with
    | cons r rest =>
      have hw := List.getElem?_eq_getElem (Nat.mod_lt s.next h.pos)
      simp only [MapSt.submit, hw]
      exact .submit ht hw
    | nil =>
      simp only
      split
      · rename_i hc
        simp only [MapSt.poll]
        cases hw : s.ws[s.cursor]? with
        | none => exact .skip ht hc (fun w hw' => by rw [hw] at hw'; cases hw')
        | some w =>
          cases hr : w.resQ with
          | nil =>
            simp only [hr]
            exact .skip ht hc (fun w' hw' => by rw [hw] at hw'; cases hw'; exact hr)
          | cons r rq =>
            obtain ⟨i, pd, hp⟩ := List.exists_cons_of_ne_nil (h.pending_ne hw (by simp [hr]))
            simp only [hr, hp]
            exact .collect ht hc hw hr hp
      · rename_i hc
        exact .stay (fun hen => hen.elim (fun h => h ht) (fun h => hc h.1))
  | succ k =>
    show s.Move (k + 1) (s.workerStep k)
    cases hk : s.ws[k]? with
    | none =>
      simp only [MapSt.workerStep, hk]
      exact .stay (fun ⟨w, hw, _⟩ => by rw [hk] at hw; cases hw)
    | some w =>
      by_cases hb : w.hold ≠ none ∨ w.jobQ ≠ []
      · simp only [MapSt.workerStep, hk]
        exact .work hk hb
      · obtain ⟨h1, h2⟩ : w.hold = none ∧ w.jobQ = [] := by simpa only [not_or, Classical.not_not] using hb
        rw [workerStep_blocked hk h1 h2]
        exact .stay (fun ⟨w', hw', hb'⟩ => by rw [hk] at hw'; cases hw'; exact hb hb')

/-- what holds at every point of a `map` call: the invariant, and the polling cursor stands at a worker -/
structure MapReach (js : List (Res α)) (s : MapSt α) : Prop extends MapInv js s where
  cur : s.cursor < s.ws.length

theorem MapReach.init (ws : List (Worker α)) (js : List (Res α)) (hq : Quiescent ws) (hp : ws ≠ []) :
    MapReach js (initMap ws js) :=
  have h := mapInv_init ws js hq hp
  ⟨h, h.pos⟩

theorem MapReach.move (h : MapReach js s) (m : s.Move a s') : MapReach js s' :=
  ⟨mapInv_move h.toMapInv m, m.cursor h.cur⟩

theorem MapReach.step (h : MapReach js s) (e : Nat) : MapReach js (s.step e) :=
  h.move (step_move h.toMapInv e)

theorem MapReach.run (h : MapReach js s) (evs : List Nat) : MapReach js (s.run evs) :=
  List.foldlRecOn evs MapSt.step h fun _ h e _ => h.step e

theorem MapReach.run_length (h : MapReach js s) (evs : List Nat) : (s.run evs).ws.length = s.ws.length :=
  (List.foldlRecOn (motive := fun t => MapReach js t ∧ t.ws.length = s.ws.length) evs MapSt.step ⟨h, rfl⟩
    fun _ ht e _ => ⟨ht.1.step e, (step_move ht.1.toMapInv e).length.trans ht.2⟩).2

theorem performed_unchanged {k : Nat} {p : List Nat} (h : MapReach js s) (evs : List Nat) (hne : (k + 1) ∉ evs)
    (hp : ∃ w, s.ws[k]? = some w ∧ w.performed = p) : ∃ w, (s.run evs).ws[k]? = some w ∧ w.performed = p :=
  (List.foldlRecOn (motive := fun t => MapReach js t ∧ ∃ w, t.ws[k]? = some w ∧ w.performed = p) evs MapSt.step ⟨h, hp⟩
    fun _ ht e he => ⟨ht.1.step e, (step_move ht.1.toMapInv e).performed (fun e' => hne (e' ▸ he)) ht.2⟩).2

theorem MapSt.run_append (s : MapSt α) (a b : List Nat) : s.run (a ++ b) = (s.run a).run b := by
  simp [MapSt.run, List.foldl_append]

theorem MapSt.runToEnd_eq_run (fuel : Nat) (s : MapSt α) : ∃ evs, s.runToEnd fuel = s.run evs := by
  induction fuel generalizing s with
  | zero => exact ⟨[], rfl⟩
  | succ f ih =>
    unfold MapSt.runToEnd
    split
    · exact ⟨[], rfl⟩
    · obtain ⟨evs, he⟩ := ih (s.run (rrRound s.ws.length))
      exact ⟨rrRound s.ws.length ++ evs, by rw [he, MapSt.run_append]⟩

theorem emit_map_some (js : List (Res α)) : emit (js.map some) = serial js := by
  induction js with
  | nil => rfl
  | cons r t ih =>
    cases r with
    | ok v => simp [emit, serial, ih]
    | err e => simp [emit, serial]

structure MapDone (js : List (Res α)) (s : MapSt α) : Prop where
  slots : s.slots = js.map some
  quiet : Quiescent s.ws
  perf : ∀ (k : Nat) (w : Worker α), s.ws[k]? = some w →
    w.performed = (List.range js.length).filter (fun i => i % s.ws.length == k)

theorem MapDone.output (h : MapDone js s) : s.output = serial js := by
  rw [MapSt.output, h.slots, emit_map_some]

theorem mapInv_finished (h : MapInv js s) (hf : s.finished = true) : MapDone js s := by
  simp only [MapSt.finished, Bool.and_eq_true, List.isEmpty_iff, decide_eq_true_eq] at hf
  obtain ⟨ht, hc⟩ := hf
  have hnext : s.next = js.length :=
    Nat.le_antisymm h.next_le (List.drop_eq_nil_iff.mp (ht ▸ h.todo).symm)
  have hcount := h.count
  have htar := h.target
  -- every position is answered, so nothing is pending, so every pipeline is empty
  have hpend : ∀ (k : Nat) (w : Worker α), s.ws[k]? = some w → w.pending = [] := by
    intro k w hk
    have := outstanding_set s.ws k w { w with pending := [] } hk
    exact List.eq_nil_of_length_eq_zero (by simp only [List.length_nil] at this; omega)
  have hidle : ∀ (k : Nat) (w : Worker α), s.ws[k]? = some w → w.jobQ = [] ∧ w.hold = none ∧ w.resQ = [] := by
    intro k w hk
    have := h.pipe k w hk
    rw [hpend k w hk] at this
    simp only [List.map_nil, List.map_eq_nil_iff, Worker.pipe, List.append_eq_nil_iff,
      Option.toList_eq_nil_iff] at this
    exact ⟨this.2.2, this.2.1, this.1⟩
  refine ⟨?_, fun w hw => ?_, fun k w hk => ?_⟩
  · apply List.ext_getElem?
    intro i
    by_cases hi : i < js.length
    · rcases h.slots i hi with h1 | ⟨_, h2 | ⟨k, w, hk, hm⟩⟩
      · rw [h1]; simp [hi]
      · omega
      · rw [hpend k w hk] at hm; cases hm
    · rw [List.getElem?_eq_none (by rw [h.slen]; omega), List.getElem?_eq_none (by simp; omega)]
  · obtain ⟨k, hk⟩ := List.getElem?_of_mem hw
    exact hidle k w hk
  · have := h.perf k w hk
    rw [(hidle k w hk).1, hnext] at this
    simpa using this

theorem leftover_zero_of_quiescent {ws : List (Worker α)} (h : Quiescent ws) : leftover ws = 0 :=
  sum_map_eq_zero fun w hw => by
    obtain ⟨h1, h2, h3⟩ := h w hw
    simp [Worker.pipe, h1, h2, h3]

theorem map_done (ws : List (Worker α)) (js : List (Res α)) (evs : List Nat) (hq : Quiescent ws) (hp : ws ≠ [])
    (hf : ((initMap ws js).run evs).finished = true) :
    MapDone js ((initMap ws js).run evs) ∧ ((initMap ws js).run evs).ws.length = ws.length := by
  have h := MapReach.init ws js hq hp
  exact ⟨mapInv_finished (h.run evs).toMapInv hf, by rw [h.run_length]; simp [initMap]⟩

theorem mapBatch_done (ws : List (Worker α)) (js : List (Res α)) (sched : List Nat) (fuel : Nat)
    (hq : Quiescent ws) (hp : ws ≠ []) (hf : (mapBatch ws js sched fuel).finished = true) :
    MapDone js (mapBatch ws js sched fuel) ∧ (mapBatch ws js sched fuel).ws.length = ws.length := by
  obtain ⟨evs, he⟩ := MapSt.runToEnd_eq_run fuel ((initMap ws js).run sched)
  rw [mapBatch, he, ← MapSt.run_append] at hf ⊢
  exact map_done ws js (sched ++ evs) hq hp hf

/-- fairness towards workers is needed -/
theorem starved_never_finishes (ws : List (Worker α)) (js : List (Res α)) (hq : Quiescent ws) (hp : ws ≠ [])
    (k : Nat) (hk : k < ws.length) (hj : k < js.length) (evs : List Nat) (h : (k + 1) ∉ evs) :
    ((initMap ws js).run evs).finished = false := by
  cases hf : ((initMap ws js).run evs).finished with
  | false => rfl
  | true =>
    -- worker `k` has performed nothing, but position `k` is in its log when the caller has finished
    obtain ⟨hd, hl⟩ := map_done ws js evs hq hp hf
    obtain ⟨w, hw, hw0⟩ := performed_unchanged (p := []) (MapReach.init ws js hq hp) evs h
      ⟨_, List.getElem?_eq_getElem (by simpa [initMap] using hk), by simp [initMap]⟩
    have : k ∈ (List.range js.length).filter (fun i => i % ws.length == k) := by
      simp [List.mem_filter, hj, Nat.mod_eq_of_lt hk]
    rw [← hl, ← hd.perf k w hw, hw0] at this
    cases this

end map

section run_jobs
variable {js : List (Res α)} {s s' : RunSt α}

/-- one schedule entry can take `s` to `s'`; one case per queue interaction -/
inductive RunSt.Move (s : RunSt α) : RunSt α → Prop
  | stay : Move s s
  | put {k : Nat} {w : RWorker α} {r : Res α} : s.ws[k]? = some w → w.hold = some r →
      Move s { s with ws := s.ws.set k { w with hold := none, resQ := w.resQ ++ [r] } }
  /-- pinned worker loop: the answer of `empty()` decides whether the worker leaves -/
  | poll {k : Nat} {w : RWorker α} (ph : Phase) : s.cfg.pollEmpty = true → s.ws[k]? = some w → w.hold = none →
      w.phase = .idle → Move s { s with ws := s.ws.set k { w with phase := ph } }
  | takeStop {k : Nat} {w : RWorker α} {rest : List (QItem α)} : s.ws[k]? = some w → w.hold = none →
      w.phase ≠ .dead → s.jobQ = .stop :: rest →
      Move s { s with jobQ := rest, ws := s.ws.set k { w with phase := .dead } }
  | takeJob {k : Nat} {w : RWorker α} {j : Job α} {rest : List (QItem α)} : s.ws[k]? = some w → w.hold = none →
      w.phase ≠ .dead → s.jobQ = .job j :: rest →
      Move s { s with jobQ := rest, performed := s.performed ++ [j.id],
                      ws := s.ws.set k { w with phase := .idle, hold := some j.res } }
  | collect {w : RWorker α} {r : Res α} {rq : List (Res α)} : s.done = false → s.ws[s.cursor]? = some w →
      w.resQ = r :: rq →
      Move s { s with ws := s.ws.set s.cursor { w with resQ := rq }, yielded := s.yielded ++ [r],
                      count := s.count + (if r.isErr && s.cfg.countTwice then 2 else 1) }
  | next (c : Nat) : Move s { s with cursor := c }
  | finish : s.done = false → s.total ≤ s.count → Move s { s with done := true }

theorem RunSt.step_move (s : RunSt α) (e : Ev) : s.Move (s.step e) := by
  unfold RunSt.step
  split
  · unfold RunSt.mainStep
    split
    · exact .stay
    · rename_i hd
      have hadv : s.Move s.advance := by
        unfold RunSt.advance RunSt.endOfPass
        split
        · exact .next _
        · split
          · exact .next _
          · exact .finish (Bool.eq_false_iff.mpr hd) (by omega)
      cases hk : s.ws[s.cursor]? with
      | none => exact hadv
      | some w =>
        dsimp only
        cases hr : w.resQ with
        | nil => exact hadv
        | cons r rq =>
          dsimp only
          split
          · exact hadv
          · exact .collect (Bool.eq_false_iff.mpr hd) hk hr
  · rename_i k _
    unfold RunSt.workerStep
    cases hk : s.ws[k]? with
    | none => exact .stay
    | some w =>
      dsimp only
      cases hh : w.hold with
      | some r => exact .put hk hh
      | none =>
        dsimp only
        have htake : w.phase ≠ .dead → s.Move (s.take k w) := by
          intro hp
          unfold RunSt.take
          cases hq : s.jobQ with
          | nil => exact .stay
          | cons q rest =>
            cases q with
            | stop => exact .takeStop hk hh hp hq
            | job j => exact .takeJob hk hh hp hq
        cases hp : w.phase with
        | dead => exact .stay
        | committed => exact htake (by rw [hp]; nofun)
        | idle =>
          dsimp only
          split
          · rename_i hc
            split
            · rw [← hh]
              exact .poll .dead hc hk hh hp
            · rw [← hh]
              exact .poll .committed hc hk hh hp
          · exact htake (by rw [hp]; nofun)

theorem RunSt.Move.cfg (m : s.Move s') : s'.cfg = s.cfg := by
  cases m <;> rfl

theorem RunSt.Move.length (m : s.Move s') : s'.ws.length = s.ws.length := by
  cases m <;> simp

theorem RunSt.run_cfg (s : RunSt α) (evs : List Ev) : (s.run evs).cfg = s.cfg :=
  List.foldlRecOn (motive := fun t : RunSt α => t.cfg = s.cfg) evs RunSt.step rfl fun t h e _ => (t.step_move e).cfg.trans h

theorem RunSt.run_length (s : RunSt α) (evs : List Ev) : (s.run evs).ws.length = s.ws.length :=
  List.foldlRecOn (motive := fun t : RunSt α => t.ws.length = s.ws.length) evs RunSt.step rfl
    fun t h e _ => (t.step_move e).length.trans h

theorem RunSt.run_append (s : RunSt α) (a b : List Ev) : s.run (a ++ b) = (s.run a).run b := by
  simp [RunSt.run, List.foldl_append]

theorem RunSt.runToEnd_eq_run (fuel : Nat) (s : RunSt α) : ∃ evs, s.runToEnd fuel = s.run evs := by
  induction fuel generalizing s with
  | zero => exact ⟨[], rfl⟩
  | succ f ih =>
    unfold RunSt.runToEnd
    split
    · exact ⟨[], rfl⟩
    · obtain ⟨evs, he⟩ := ih (s.run (rrEvents s.ws.length))
      exact ⟨rrEvents s.ws.length ++ evs, by rw [he, RunSt.run_append]⟩

theorem rpipes_split (ws : List (RWorker α)) (k : Nat) (w : RWorker α) (h : ws[k]? = some w) :
    ∃ A B, rpipes ws = A ++ (w.pipe ++ B) ∧ ∀ x : RWorker α, rpipes (ws.set k x) = A ++ (x.pipe ++ B) := by
  induction ws generalizing k with
  | nil => simp at h
  | cons a t ih =>
    cases k with
    | zero =>
      simp only [List.getElem?_cons_zero, Option.some.injEq] at h
      subst h
      exact ⟨[], rpipes t, by simp [rpipes], fun x => by simp [rpipes]⟩
    | succ k =>
      obtain ⟨A, B, h1, h2⟩ := ih k (by simpa using h)
      exact ⟨a.pipe ++ A, B, by simp [rpipes, h1], fun x => by simp [rpipes, h2 x]⟩

theorem jobsOf_append (a b : List (QItem α)) : jobsOf (a ++ b) = jobsOf a ++ jobsOf b := by
  induction a with
  | nil => rfl
  | cons x t ih => cases x <;> simp [jobsOf, ih]

theorem jobsOf_map_job (l : List (Job α)) : jobsOf (l.map QItem.job) = l := by
  induction l with
  | nil => rfl
  | cons x t ih => simp [jobsOf, ih]

theorem jobsOf_replicate_stop (n : Nat) : jobsOf (List.replicate n (QItem.stop : QItem α)) = [] := by
  induction n with
  | zero => rfl
  | succ n ih => simp [List.replicate_succ, jobsOf, ih]

theorem enumFrom_res (n : Nat) (js : List (Res α)) : (enumFrom n js).map (·.res) = js := by
  induction js generalizing n with
  | nil => rfl
  | cons r t ih => simp [enumFrom, ih]

theorem enumFrom_id (n : Nat) (js : List (Res α)) : (enumFrom n js).map (·.id) = List.range' n js.length := by
  induction js generalizing n with
  | nil => rfl
  | cons r t ih => simp [enumFrom, ih, List.range'_succ]

theorem rpipes_replicate (n : Nat) : rpipes (List.replicate n ({} : RWorker α)) = [] := by
  induction n with
  | zero => rfl
  | succ n ih => simp [List.replicate_succ, rpipes, RWorker.pipe, ih]

structure RunInv (js : List (Res α)) (s : RunSt α) : Prop where
  /-- nothing is lost or duplicated: yielded + in flight + still queued = the batch -/
  bag : (s.yielded ++ (rpipes s.ws ++ (jobsOf s.jobQ).map (·.res))).Perm js
  /-- jobs leave the shared queue in order, each once -/
  perf : s.performed ++ (jobsOf s.jobQ).map (·.id) = List.range js.length
  total : s.total = js.length
  count : s.cfg.countTwice = false → s.count = s.yielded.length
  done : s.done = true → s.total ≤ s.count

theorem runInv_init (cfg : Cfg) (P : Nat) (js : List (Res α)) : RunInv js (initRun cfg P js) := by
  have hj : jobsOf ((enumFrom 0 js).map QItem.job ++ (if cfg.pollEmpty then [] else List.replicate P QItem.stop))
      = enumFrom 0 js := by
    rw [jobsOf_append, jobsOf_map_job]
    split
    · simp [jobsOf]
    · simp [jobsOf_replicate_stop]
  refine ⟨?_, ?_, rfl, fun _ => rfl, ?_⟩
  · simp only [initRun, hj, rpipes_replicate, enumFrom_res, List.nil_append]
    exact List.Perm.refl _
  · simp only [initRun, hj, enumFrom_id, List.nil_append, List.range_eq_range']
  · intro h
    simp only [initRun, List.isEmpty_iff] at h
    simp [initRun, h]

theorem runInv_move (h : RunInv js s) (m : s.Move s') : RunInv js s' := by
  -- a worker's turn that leaves its pipeline as it was
  have hsame : ∀ {k : Nat} {w x : RWorker α}, s.ws[k]? = some w → x.pipe = w.pipe →
      RunInv js { s with ws := s.ws.set k x } := by
    intro k w x hk hp
    obtain ⟨A, B, h1, h2⟩ := rpipes_split s.ws k w hk
    exact ⟨by simpa only [h2 x, hp, ← h1] using h.bag, h.perf, h.total, h.count, h.done⟩
  cases m with
  | stay => exact h
  | next c => exact ⟨h.bag, h.perf, h.total, h.count, h.done⟩
  | finish _ hc => exact ⟨h.bag, h.perf, h.total, h.count, fun _ => hc⟩
  | put hk hh => exact hsame hk (by simp [RWorker.pipe, hh])
  | poll ph _ hk hh _ => exact hsame hk (by simp [RWorker.pipe, hh])
  | @takeStop k w rest hk hh _ hq =>
    have := hsame (x := { w with phase := .dead }) hk rfl
    exact ⟨by simpa [hq, jobsOf] using this.bag, by simpa [hq, jobsOf] using this.perf, h.total, h.count, h.done⟩
  | @takeJob k w j rest hk hh _ hq =>
    obtain ⟨A, B, h1, h2⟩ := rpipes_split s.ws k w hk
    refine ⟨?_, by simpa [hq, jobsOf] using h.perf, h.total, h.count, h.done⟩
    have hb := h.bag
    simp only [hq, jobsOf, List.map_cons, h1] at hb
    have hx : ({ w with phase := Phase.idle, hold := some j.res } : RWorker α).pipe = w.pipe ++ [j.res] := by
      simp [RWorker.pipe, hh]
    simp only [h2, hx]
    refine List.Perm.trans (List.Perm.append_left _ ?_) hb
    -- the outcome moves from the head of the queued jobs to the end of worker `k`'s pipeline
    simp only [List.append_assoc, List.singleton_append]
    exact (List.perm_middle.symm.append_left _).append_left _ |>.trans (by simp)
  | @collect w r rq hd hk hr =>
    obtain ⟨A, B, h1, h2⟩ := rpipes_split s.ws s.cursor w hk
    refine ⟨?_, h.perf, h.total, fun hc => ?_, fun hd' => absurd (hd ▸ hd') (by simp)⟩
    · have hb := h.bag
      have hx : w.pipe = r :: ({ w with resQ := rq } : RWorker α).pipe := by simp [RWorker.pipe, hr]
      simp only [h1, hx] at hb
      simp only [h2]
      refine List.Perm.trans ?_ hb
      simp only [List.append_assoc, List.cons_append, List.nil_append]
      exact List.Perm.append_left _ List.perm_middle.symm
    · have hc' : s.cfg.countTwice = false := hc
      simp [hc', h.count hc']

theorem runInv_run (h : RunInv js s) (evs : List Ev) : RunInv js (s.run evs) :=
  List.foldlRecOn evs RunSt.step h fun t h e _ => runInv_move h (t.step_move e)

structure RunDone (js : List (Res α)) (s : RunSt α) : Prop where
  yielded : s.yielded.Perm js
  performed : s.performed = List.range js.length
  no_jobs : jobsOf s.jobQ = []
  no_flight : rpipes s.ws = []

theorem runInv_done (h : RunInv js s) (hc : s.cfg.countTwice = false) (hd : s.done = true) : RunDone js s := by
  have h1 := h.done hd
  have h2 := h.count hc
  have h3 := h.total
  have hl := h.bag.length_eq
  simp only [List.length_append, List.length_map] at hl
  have hr' : rpipes s.ws = [] := List.eq_nil_of_length_eq_zero (by omega)
  have hj' : jobsOf s.jobQ = [] := List.eq_nil_of_length_eq_zero (by omega)
  exact ⟨by simpa [hr', hj'] using h.bag, by simpa [hj'] using h.perf, hj', hr'⟩

theorem runJobs_done (cfg : Cfg) (P : Nat) (js : List (Res α)) (evs : List Ev) (hc : cfg.countTwice = false)
    (hd : ((initRun cfg P js).run evs).done = true) : RunDone js ((initRun cfg P js).run evs) :=
  runInv_done (runInv_run (runInv_init cfg P js) evs) (by rw [RunSt.run_cfg]; exact hc) hd

/-- pinned worker loop: every worker has left with jobs outstanding; the caller never returns from here -/
def Stuck (s : RunSt α) : Prop :=
  s.done = false ∧ s.count < s.total ∧ ∀ w ∈ s.ws, w.phase = .dead ∧ w.hold = none ∧ w.resQ = []

theorem stuck_move (h : Stuck s) (m : s.Move s') : Stuck s' := by
  obtain ⟨hd, hc, hw⟩ := h
  have hw' := fun {k : Nat} {w : RWorker α} (hk : s.ws[k]? = some w) => hw w (List.mem_of_getElem? hk)
  cases m with
  | stay => exact ⟨hd, hc, hw⟩
  | next c => exact ⟨hd, hc, hw⟩
  | finish _ h => exact absurd h (Nat.not_le_of_lt hc)
  | put hk hh => rw [(hw' hk).2.1] at hh; cases hh
  | poll ph _ hk _ hp => rw [(hw' hk).1] at hp; cases hp
  | takeStop hk _ hp _ => exact absurd (hw' hk).1 hp
  | takeJob hk _ hp _ => exact absurd (hw' hk).1 hp
  | collect _ hk hr => rw [(hw' hk).2.2] at hr; cases hr

theorem stuck_run (h : Stuck s) (evs : List Ev) : Stuck (s.run evs) :=
  List.foldlRecOn evs RunSt.step h fun t h e _ => stuck_move h (t.step_move e)

end run_jobs

end AF.ParEval
