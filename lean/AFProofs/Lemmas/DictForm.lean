import AFModel.DictForm
import AFProofs.Lemmas.Persist

/-! Reading the written dictionary form back renames the ids of the composition injectively
(and gives arithmetic priors the operand names of a reload). -/

namespace AF

/-- process ids in order -/
def extend (s : LoadSt) : List Nat → LoadSt
  | [] => s
  | id :: rest => extend (loadPrior s id).2 rest

theorem extend_append (s : LoadSt) : ∀ (a b : List Nat), extend s (a ++ b) = extend (extend s a) b
  | [], b => rfl
  | x :: a, b => by simp only [List.cons_append, extend]; exact extend_append _ a b

theorem lookup_loadPrior (s : LoadSt) (id j : Nat) :
    (loadPrior s id).2.lookup j = (s.lookup j).or (if id = j then some (loadPrior s id).1 else none) := by
  unfold loadPrior
  cases h : s.lookup id with
  | some k =>
    by_cases hj : id = j
    · subst hj; simp [h]
    · simp [hj]
  | none =>
    simp only [LoadSt.lookup, List.find?_append, List.find?_cons, List.find?_nil, Option.map_or]
    by_cases hj : id = j
    · subst hj; simp
    · simp [hj, beq_false_of_ne hj]

theorem loadPrior_lookup_self (s : LoadSt) (id : Nat) :
    (loadPrior s id).2.lookup id = some (loadPrior s id).1 := by
  rw [lookup_loadPrior, if_pos rfl]
  unfold loadPrior
  cases s.lookup id <;> rfl

/-- `s'` knows every stored id that `s` knows, under the same new id: what reading on does to `s` -/
def LoadSt.le (s s' : LoadSt) : Prop := ∀ j k, s.lookup j = some k → s'.lookup j = some k

theorem LoadSt.le.refl (s : LoadSt) : s.le s := fun _ _ h => h

theorem LoadSt.le.trans {s₁ s₂ s₃ : LoadSt} (h : s₁.le s₂) (h' : s₂.le s₃) : s₁.le s₃ :=
  fun j k hk => h' j k (h j k hk)

theorem le_loadPrior (s : LoadSt) (id : Nat) : s.le (loadPrior s id).2 := fun j k h => by
  rw [lookup_loadPrior, h]; rfl

theorem le_extend : ∀ (s : LoadSt) (l : List Nat), s.le (extend s l)
  | s, [] => .refl s
  | s, id :: rest => (le_loadPrior s id).trans (le_extend _ rest)

theorem extend_lookup_mem : ∀ (l : List Nat) (s : LoadSt) (j : Nat), j ∈ l →
    ∃ k, (extend s l).lookup j = some k
  | id :: rest, s, j, h => by
    by_cases hj : j = id
    · subst hj; exact ⟨_, le_extend _ rest j _ (loadPrior_lookup_self s j)⟩
    · exact extend_lookup_mem rest _ j ((List.mem_cons.mp h).resolve_left hj)

/-- the id map read off a load state -/
def sigmaOf (s : LoadSt) (id : Nat) : Nat := (s.lookup id).getD 0

theorem sigmaOf_of_le {s s' : LoadSt} (h : s.le s') {j k : Nat} (hk : s.lookup j = some k) : sigmaOf s' j = k := by
  simp only [sigmaOf, h j k hk, Option.getD_some]

/-- invariant of a load state: distinct stored ids have distinct new ids, all below `next` -/
def LoadSt.Good (s : LoadSt) : Prop :=
  (∀ i k, s.lookup i = some k → k < s.next) ∧
  (∀ i j k, s.lookup i = some k → s.lookup j = some k → i = j)

theorem good_init (base : Nat) : ({ next := base } : LoadSt).Good := by
  constructor <;> intro i <;> simp [LoadSt.lookup]

theorem lookup_loadPrior_cases (s : LoadSt) (id j k : Nat) (h : (loadPrior s id).2.lookup j = some k) :
    s.lookup j = some k ∨ (s.lookup id = none ∧ j = id ∧ k = s.next) := by
  rw [lookup_loadPrior] at h
  cases hj : s.lookup j with
  | some a => rw [hj] at h; exact Or.inl h
  | none =>
    rw [hj] at h
    by_cases e : id = j
    · subst e; simp [loadPrior, hj] at h; exact Or.inr ⟨hj, rfl, h.symm⟩
    · simp [e] at h

theorem good_loadPrior (s : LoadSt) (id : Nat) (h : s.Good) : (loadPrior s id).2.Good := by
  have hnext : s.next ≤ (loadPrior s id).2.next := by
    unfold loadPrior; cases s.lookup id <;> simp
  constructor
  · intro i k hk
    rcases lookup_loadPrior_cases s id i k hk with h1 | ⟨h1, _, rfl⟩
    · exact Nat.lt_of_lt_of_le (h.1 i k h1) hnext
    · unfold loadPrior; simp [h1]
  · intro i j k hi hj
    rcases lookup_loadPrior_cases s id i k hi with h1 | ⟨_, rfl, rfl⟩
    · rcases lookup_loadPrior_cases s id j k hj with h2 | ⟨_, rfl, rfl⟩
      · exact h.2 i j k h1 h2
      · exact absurd (h.1 i _ h1) (Nat.lt_irrefl _)
    · rcases lookup_loadPrior_cases s i j _ hj with h2 | ⟨_, rfl, _⟩
      · exact absurd (h.1 j _ h2) (Nat.lt_irrefl _)
      · rfl

theorem good_extend : ∀ (l : List Nat) (s : LoadSt), s.Good → (extend s l).Good
  | [], _, h => h
  | id :: rest, s, h => good_extend rest _ (good_loadPrior s id h)

theorem extend_split {s s' : LoadSt} {a b : List Nat} (hs : s.Good) (h : (extend s (a ++ b)).le s') :
    (extend s a).le s' ∧ (extend s a).Good ∧ (extend (extend s a) b).le s' := by
  rw [extend_append] at h
  exact ⟨(le_extend _ b).trans h, good_extend a s hs, h⟩

theorem sigmaOf_injective {s s' : LoadSt} {l : List Nat} (hs : s.Good) (hle : (extend s l).le s') {i j : Nat}
    (hi : i ∈ l) (hj : j ∈ l) (he : sigmaOf s' i = sigmaOf s' j) : i = j := by
  obtain ⟨a, ha⟩ := extend_lookup_mem l s i hi
  obtain ⟨b, hb⟩ := extend_lookup_mem l s j hj
  rw [sigmaOf_of_le hle ha, sigmaOf_of_le hle hb] at he
  exact (good_extend l s hs).2 i j a ha (he ▸ hb)

/-! ### the order in which the reader meets the ids -/

mutual
def loadOrder {V} : Node V → List Nat
  | .prior id => [id]
  | .const _ => []
  | .opaque _ => []
  | .model _ _ attrs => loadOrderAttrs attrs
  | .coll attrs => loadOrderAttrs attrs
  | .tuple attrs => loadOrderAttrs attrs
  | .arith _ _ l r => loadOrder l ++ loadOrder r
  | .modif _ _ x => loadOrder x
  | .array _ attrs => loadOrderAttrs attrs
def loadOrderAttrs {V} : List (String × Node V) → List Nat
  | [] => []
  | (_, n) :: rest => loadOrder n ++ loadOrderAttrs rest
end

/-- the id of the prior a node is, when it is one -/
def Node.priorId? {V} : Node V → Option Nat
  | .prior i => some i
  | _ => none

/-- both are ids, and equal -/
def sameId : Option Nat → Option Nat → Bool
  | some i, some j => i == j
  | _, _ => false

theorem sameId_map (σ : Nat → Nat) (a b : Option Nat)
    (hinj : ∀ i j, a = some i → b = some j → σ i = σ j → i = j) :
    sameId (a.map σ) (b.map σ) = sameId a b := by
  cases a <;> cases b <;> try rfl
  rename_i i j
  show (σ i == σ j) = (i == j)
  by_cases h : i = j
  · rw [h]; simp only [beq_self_eq_true]
  · rw [beq_false_of_ne h, beq_false_of_ne (mt (hinj i j rfl rfl) h)]

theorem samePrior_eq {V} (a b : Node V) : samePrior a b = sameId a.priorId? b.priorId? := by
  cases a <;> first | rfl | (cases b <;> rfl)

theorem priorId?_renameIds {V} (σ : Nat → Nat) (a : Node V) : (renameIds σ a).priorId? = a.priorId?.map σ := by
  cases a <;> rfl

theorem priorId?_canonNames {V} (a : Node V) : (canonNames a).priorId? = a.priorId? := by
  cases a <;> rfl

theorem mem_loadOrder_of_priorId? {V} {a : Node V} {i : Nat} (h : a.priorId? = some i) : i ∈ loadOrder a := by
  cases a <;> cases h
  exact List.mem_singleton_self i

theorem operandAttrs_rename {V} (σ : Nat → Nat) (a b : Node V)
    (hinj : ∀ i j, a.priorId? = some i → b.priorId? = some j → σ i = σ j → i = j) :
    operandAttrs (renameIds σ a) (renameIds σ b) = renameAttrs σ (operandAttrs a b) := by
  unfold operandAttrs
  rw [samePrior_eq, priorId?_renameIds, priorId?_renameIds, sameId_map σ _ _ hinj, ← samePrior_eq]
  split <;> rfl

/-- **reader ∘ writer = renaming** (state-passing form). The renaming may be read off any later state `s'`:
ids already met keep their new id whatever is read afterwards, so no case has to move a renaming
from one state to the next. -/
theorem fromDict_toDict_le {V} :
    (∀ (n : Node V) (s s' : LoadSt), s.Good → (extend s (loadOrder n)).le s' →
      fromDict (toDict n) s = (renameIds (sigmaOf s') (canonNames n), extend s (loadOrder n))) ∧
    (∀ (attrs : List (String × Node V)) (s s' : LoadSt), s.Good → (extend s (loadOrderAttrs attrs)).le s' →
      fromDictAttrs (toDictAttrs attrs) s =
        (renameAttrs (sigmaOf s') (canonNamesAttrs attrs), extend s (loadOrderAttrs attrs))) := by
  apply Node.induct_attrs
  case prior =>
    intro id s s' _ hle
    simp only [toDict, fromDict, loadOrder, extend, canonNames, renameIds, sigmaOf_of_le hle (loadPrior_lookup_self s id)]
  case arith =>
    intro _ _ _ _ _ hl hr s s' hs hle
    obtain ⟨h₁, hs₁, h₂⟩ := extend_split hs hle
    simp only [toDict, fromDict, loadOrder, extend_append, canonNames, renameIds, hl s s' hs h₁, hr _ s' hs₁ h₂]
    rw [operandAttrs_rename]
    intro i j hi hj
    rw [priorId?_canonNames] at hi hj
    exact sigmaOf_injective hs hle (List.mem_append_left _ (mem_loadOrder_of_priorId? hi))
      (List.mem_append_right _ (mem_loadOrder_of_priorId? hj))
  case cons =>
    intro _ _ _ hn hrest s s' hs hle
    obtain ⟨h₁, hs₁, h₂⟩ := extend_split hs hle
    simp only [toDictAttrs, fromDictAttrs, loadOrderAttrs, extend_append, canonNamesAttrs, renameAttrs,
      hn s s' hs h₁, hrest _ s' hs₁ h₂]
  case model => intro _ _ _ ha s s' hs hle; simp only [toDict, fromDict, loadOrder, canonNames, renameIds, ha s s' hs hle]
  case coll | tuple =>
    intro _ ha s s' hs hle; simp only [toDict, fromDict, loadOrder, canonNames, renameIds, ha s s' hs hle]
  case array => intro _ _ ha s s' hs hle; simp only [toDict, fromDict, loadOrder, canonNames, renameIds, ha s s' hs hle]
  case modif =>
    intro _ _ _ _ hx s s' hs hle
    simp only [toDict, fromDict, loadOrder, canonNames, renameIds, renameAttrs, hx s s' hs hle]
  all_goals intros; rfl

theorem fromDict_toDict {V} : ∀ (n : Node V) (s : LoadSt), s.Good →
    fromDict (toDict n) s =
      (renameIds (sigmaOf (extend s (loadOrder n))) (canonNames n), extend s (loadOrder n)) :=
  fun n s hs => fromDict_toDict_le.1 n s _ hs (.refl _)
theorem fromDictAttrs_toDict {V} : ∀ (attrs : List (String × Node V)) (s : LoadSt), s.Good →
    fromDictAttrs (toDictAttrs attrs) s =
      (renameAttrs (sigmaOf (extend s (loadOrderAttrs attrs))) (canonNamesAttrs attrs),
       extend s (loadOrderAttrs attrs)) :=
  fun attrs s hs => fromDict_toDict_le.2 attrs s _ hs (.refl _)

/-! ### every id a renaming touches -/

mutual
def allIds {V} : Node V → List Nat
  | .prior id => [id]
  | .const _ => []
  | .opaque _ => []
  | .model _ _ attrs => allIdsAttrs attrs
  | .coll attrs => allIdsAttrs attrs
  | .tuple attrs => allIdsAttrs attrs
  | .arith _ attrs l r => allIdsAttrs attrs ++ allIds l ++ allIds r
  | .modif _ attrs x => allIdsAttrs attrs ++ allIds x
  | .array _ attrs => allIdsAttrs attrs
def allIdsAttrs {V} : List (String × Node V) → List Nat
  | [] => []
  | (_, n) :: rest => allIds n ++ allIdsAttrs rest
end

theorem renameIds_congr_all {V} (σ τ : Nat → Nat) :
    (∀ n : Node V, (∀ id ∈ allIds n, σ id = τ id) → renameIds σ n = renameIds τ n) ∧
    (∀ attrs : List (String × Node V),
      (∀ id ∈ allIdsAttrs attrs, σ id = τ id) → renameAttrs σ attrs = renameAttrs τ attrs) := by
  apply Node.induct_attrs
  case prior => intro id h; simp only [renameIds, h id (List.mem_singleton_self id)]
  case arith =>
    intro _ _ _ _ ha hl hr h
    have ⟨h', h₃⟩ := List.forall_mem_append.mp h
    have ⟨h₁, h₂⟩ := List.forall_mem_append.mp h'
    simp only [renameIds, ha h₁, hl h₂, hr h₃]
  case modif =>
    intro _ _ _ ha hx h
    have ⟨h₁, h₂⟩ := List.forall_mem_append.mp h
    simp only [renameIds, ha h₁, hx h₂]
  case cons =>
    intro _ _ _ hn hr h
    have ⟨h₁, h₂⟩ := List.forall_mem_append.mp h
    simp only [renameAttrs, hn h₁, hr h₂]
  case model => intro _ _ _ ha h; simp only [renameIds, ha h]
  case coll | tuple => intro _ ha h; simp only [renameIds, ha h]
  case array => intro _ _ ha h; simp only [renameIds, ha h]
  all_goals intros; rfl

theorem renameIds_congr {V} (σ τ : Nat → Nat) : ∀ (n : Node V),
    (∀ id ∈ allIds n, σ id = τ id) → renameIds σ n = renameIds τ n := (renameIds_congr_all σ τ).1
theorem renameAttrs_congr {V} (σ τ : Nat → Nat) : ∀ (attrs : List (String × Node V)),
    (∀ id ∈ allIdsAttrs attrs, σ id = τ id) → renameAttrs σ attrs = renameAttrs τ attrs := (renameIds_congr_all σ τ).2

theorem mem_allIds_operandAttrs {V} (a b : Node V) (id : Nat)
    (h : id ∈ allIdsAttrs (operandAttrs a b)) : id ∈ allIds a ∨ id ∈ allIds b := by
  unfold operandAttrs at h
  split at h
  · simp only [allIdsAttrs, List.append_nil] at h; exact Or.inr h
  · simp only [allIdsAttrs, List.append_nil, List.mem_append] at h; exact h

theorem allIds_canon_sub_all {V} :
    (∀ (n : Node V) (id : Nat), id ∈ allIds (canonNames n) → id ∈ loadOrder n) ∧
    (∀ (attrs : List (String × Node V)) (id : Nat),
      id ∈ allIdsAttrs (canonNamesAttrs attrs) → id ∈ loadOrderAttrs attrs) := by
  apply Node.induct_attrs
  case arith =>
    intro _ _ l r _ hl hr id
    simp only [canonNames, allIds, loadOrder, List.mem_append]
    rintro ((h | h) | h)
    · exact (mem_allIds_operandAttrs _ _ id h).imp (hl id) (hr id)
    · exact Or.inl (hl id h)
    · exact Or.inr (hr id h)
  case modif =>
    intro _ _ x _ hx id
    simp only [canonNames, allIds, allIdsAttrs, loadOrder, List.mem_append, List.append_nil, or_self]
    exact hx id
  case cons =>
    intro _ _ _ hn hr id
    simp only [canonNamesAttrs, allIdsAttrs, loadOrderAttrs, List.mem_append]
    exact Or.imp (hn id) (hr id)
  case model => intro _ _ _ ha; exact ha
  case coll | tuple => intro _ ha; exact ha
  case array => intro _ _ ha; exact ha
  all_goals intros; assumption

theorem allIds_canon_sub {V} : ∀ (n : Node V) (id : Nat), id ∈ allIds (canonNames n) → id ∈ loadOrder n :=
  allIds_canon_sub_all.1
theorem allIdsAttrs_canon_sub {V} : ∀ (attrs : List (String × Node V)) (id : Nat),
    id ∈ allIdsAttrs (canonNamesAttrs attrs) → id ∈ loadOrderAttrs attrs := allIds_canon_sub_all.2

/-! ### compositions without arithmetic priors -/

mutual
def NoArith {V} : Node V → Prop
  | .prior _ => True
  | .const _ => True
  | .opaque _ => True
  | .model _ _ attrs => NoArithAttrs attrs
  | .coll attrs => NoArithAttrs attrs
  | .tuple attrs => NoArithAttrs attrs
  | .array _ attrs => NoArithAttrs attrs
  | .arith _ _ _ _ => False
  | .modif _ _ _ => False
def NoArithAttrs {V} : List (String × Node V) → Prop
  | [] => True
  | (_, n) :: rest => NoArith n ∧ NoArithAttrs rest
end

end AF
