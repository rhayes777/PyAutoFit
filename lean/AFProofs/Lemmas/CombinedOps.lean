import AFModel.CombinedOps

/-! Lemmas about `AFModel/CombinedOps.lean`: everything about the order of `combined.analyses`
follows from one equation, `flatten_add`; `buildF` with the repaired `+` never raises. -/

namespace AF.Combined
open AF

theorem build_add {α : Type} (l r : Expr α) : build (.add l r) = .comb (flatten (.add l r)) := by
  show plus (build l) (build r) = .comb (plus (build l) (build r)).toList
  cases build l <;> cases build r <;> rfl

theorem build_of_not_isLeaf {α : Type} : ∀ (e : Expr α), e.isLeaf = false → build e = .comb (flatten e)
  | .add l r, _ => build_add l r

/-- the analyses held by a sum: those of both operands, left operand first, except that a single
analysis added to a sum on its right comes last -/
theorem flatten_add {α : Type} (l r : Expr α) :
    flatten (.add l r) =
      if l.isLeaf && !r.isLeaf then flatten r ++ flatten l else flatten l ++ flatten r := by
  cases l with
  | leaf a =>
    cases r with
    | leaf b => rfl
    | add r₁ r₂ =>
      show (plus (.single a) (build (.add r₁ r₂))).toList = _
      rw [build_add]; rfl
  | add l₁ l₂ =>
    show (plus (build (.add l₁ l₂)) (build r)).toList = (build (.add l₁ l₂)).toList ++ (build r).toList
    rw [build_add]
    cases build r <;> rfl

theorem inOrder_add {α : Type} (l r : Expr α) :
    inOrder (.add l r) = (inOrder l && inOrder r && !(l.isLeaf && !r.isLeaf)) := by
  show (inOrder l && inOrder r && (!l.isLeaf || r.isLeaf)) = _
  rw [Bool.not_and, Bool.not_not]

theorem normalize_add {α : Type} (l r : Expr α) :
    normalize (.add l r) =
      if l.isLeaf && !r.isLeaf then .add (normalize r) (normalize l)
      else .add (normalize l) (normalize r) := rfl

theorem flatten_perm {α : Type} (e : Expr α) : (flatten e).Perm e.leaves := by
  induction e with
  | leaf _ => exact .refl _
  | add l r ihl ihr =>
    rw [flatten_add]
    split
    · exact List.perm_append_comm.trans (ihl.append ihr)
    · exact ihl.append ihr

theorem flatten_eq_leaves_normalize {α : Type} (e : Expr α) : flatten e = (normalize e).leaves := by
  induction e with
  | leaf _ => rfl
  | add l r ihl ihr =>
    rw [flatten_add, normalize_add, ihl, ihr]
    split <;> rfl

theorem flatten_of_inOrder {α : Type} (e : Expr α) (h : inOrder e = true) : flatten e = e.leaves := by
  induction e with
  | leaf _ => rfl
  | add l r ihl ihr =>
    simp only [inOrder_add, Bool.and_eq_true, Bool.not_eq_true'] at h
    rw [flatten_add, h.2, ihl h.1.1, ihr h.1.2]
    rfl

theorem flatten_foldl_add_leaf {α : Type} (rest : List α) (e : Expr α) :
    flatten (rest.foldl (fun e b => .add e (.leaf b)) e) = flatten e ++ rest := by
  induction rest generalizing e with
  | nil => exact (List.append_nil _).symm
  | cons b rest ih =>
    rw [List.foldl_cons, ih, flatten_add,
      show (e.isLeaf && !(Expr.leaf b).isLeaf) = false from Bool.and_false _]
    exact List.append_assoc _ [b] rest

theorem flatten_length {α : Type} (e : Expr α) : (flatten e).length = e.leaves.length :=
  (flatten_perm e).length_eq

theorem leaves_ne_nil {α : Type} : ∀ (e : Expr α), e.leaves ≠ []
  | .leaf _ => List.cons_ne_nil _ _
  | .add l _ => fun h => leaves_ne_nil l (List.append_eq_nil_iff.mp h).1

theorem inOrder_of_flatten {α : Type} (e : Expr α) (hn : e.leaves.Nodup) (h : flatten e = e.leaves) :
    inOrder e = true := by
  induction e with
  | leaf a => rfl
  | add l r ihl ihr =>
    have hn := List.nodup_append.mp hn
    rw [flatten_add] at h
    split at h
    · -- `a + (sum)`: the first analysis held is one of the sum's and would have to be `a`
      cases l with
      | add _ _ => contradiction
      | leaf a =>
        cases hfr : flatten r with
        | nil => exact absurd (hfr ▸ flatten_perm r).nil_eq.symm (leaves_ne_nil r)
        | cons b bs =>
          rw [hfr] at h
          injection h with hb
          exact absurd hb.symm (hn.2.2 a (List.mem_singleton_self a) b
            ((flatten_perm r).subset (hfr ▸ List.mem_cons_self)))
    · rename_i hc
      have := List.append_inj h (flatten_length l)
      rw [inOrder_add, ihl hn.1 this.1, ihr hn.2.1 this.2, eq_false_of_ne_true hc]
      rfl

theorem normalize_isLeaf {α : Type} (e : Expr α) : (normalize e).isLeaf = e.isLeaf := by
  cases e with
  | leaf _ => rfl
  | add l r => rw [normalize_add]; split <;> rfl

theorem normalize_inOrder {α : Type} (e : Expr α) : inOrder (normalize e) = true := by
  induction e with
  | leaf a => rfl
  | add l r ihl ihr =>
    rw [normalize_add]
    split
    · rename_i h
      rw [inOrder_add, ihl, ihr, normalize_isLeaf, normalize_isLeaf, ((Bool.and_eq_true_iff).mp h).1,
        Bool.not_true, Bool.and_false]
      rfl
    · rename_i h
      rw [inOrder_add, ihl, ihr, normalize_isLeaf, normalize_isLeaf, eq_false_of_ne_true h]
      rfl

theorem mergeFree_isSome (x y : Option (List Nat)) :
    (mergeFree x y).isSome = (x.isSome || y.isSome) := by
  cases x <;> cases y <;> rfl

/-- the flattened list of the declarations in force -/
def liveIds {α φ : Type} (expand : List φ → List Nat) (e : FExpr α φ) : List Nat :=
  (e.live.map expand).flatten

theorem declaredFree_add {α φ : Type} (expand : List φ → List Nat) (l r : FExpr α φ) :
    declaredFree expand (.add l r) = mergeFree (declaredFree expand l) (declaredFree expand r) := by
  unfold declaredFree
  rw [show (FExpr.add l r).live = l.live ++ r.live from rfl]
  cases l.live with
  | nil => cases r.live <;> rfl
  | cons x a =>
    cases r.live with
    | nil => rw [List.append_nil]; rfl
    | cons y b => exact congrArg some (by rw [List.map_append, List.flatten_append])

theorem buildF_add_ok {α φ : Type} (cfg : OpsCfg) (expand : List φ → List Nat) {l r : FExpr α φ}
    {x y : BuiltF α} (hx : buildF cfg expand l = .ok x) (hy : buildF cfg expand r = .ok y) :
    buildF cfg expand (.add l r) = plusF cfg x y := by
  -- one step of the definition, by reduction (the equation lemmas of `buildF` are slow to derive)
  conv => lhs; whnf
  rw [hx, hy]

theorem buildF_free_ok {α φ : Type} (cfg : OpsCfg) (expand : List φ → List Nat) {e : FExpr α φ}
    {x : BuiltF α} (args : List φ) (hx : buildF cfg expand e = .ok x) :
    buildF cfg expand (.free args e) = withFree (expand args) x := by
  conv => lhs; whnf
  rw [hx]

theorem buildF_spec {α φ : Type} (cfg : OpsCfg) (hc : cfg.freeSurvivesAdd = true)
    (expand : List φ → List Nat) (e : FExpr α φ) (hw : e.wellFormed = true) :
    buildF cfg expand e = .ok { b := build e.erase, free := declaredFree expand e } := by
  induction e with
  | leaf a => rfl
  | add l r ihl ihr =>
    obtain ⟨hwl, hwr⟩ := Bool.and_eq_true_iff.mp hw
    rw [buildF_add_ok cfg expand (ihl hwl) (ihr hwr), plusF, if_pos hc, declaredFree_add]
    rfl
  | free args e ih =>
    obtain ⟨hwe, hnl⟩ := Bool.and_eq_true_iff.mp hw
    have hb := build_of_not_isLeaf e.erase ((Bool.not_eq_true' _).mp hnl)
    have ih := ih hwe
    rw [hb] at ih
    rw [buildF_free_ok cfg expand args ih]
    show Except.ok _ = .ok ({ b := build e.erase, free := some (expand args ++ []) } : BuiltF α)
    rw [hb, List.append_nil]

end AF.Combined
