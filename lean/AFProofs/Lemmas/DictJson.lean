import AFModel.DictJson
import AFProofs.Lemmas.DictForm

/-! The reader of the actual dictionary form applied to what the writer wrote is an injective
renaming of the composition - assertions, descriptors, constants and relations included (C08). -/

namespace AF

variable {V : Type}

section
variable {P : PN V → Prop} {PA : List (String × PN V) → Prop} {PL : List (PN V) → Prop}
  (prior : ∀ id d, P (.prior id d)) (lit : ∀ s, P (.lit s))
  (model : ∀ cp a b, PA a → PL b → P (.model cp a b))
  (inst : ∀ cp a, PA a → P (.inst cp a))
  (coll : ∀ k a b, PA a → PL b → P (.coll k a b))
  (tuple : ∀ a, PA a → P (.tuple a))
  (arith : ∀ ct ln rn l r, P l → P r → P (.arith ct ln rn l r))
  (both : ∀ x y, P x → P y → P (.both x y))
  (modif : ∀ mt name x, P x → P (.modif mt name x))
  (array : ∀ sh a, PA a → P (.array sh a))
  (list : ∀ tup l, PL l → P (.list tup l))
  (nilA : PA []) (consA : ∀ k n rest, P n → PA rest → PA ((k, n) :: rest))
  (nilL : PL []) (consL : ∀ n rest, P n → PL rest → PL (n :: rest))
include prior lit model inst coll tuple arith both modif array list nilA consA nilL consL

/-- Structural induction over every child of a `PN`, with motives for attribute lists (`PA`) and plain lists (`PL`);
the conclusions come as one conjunction, so that `apply PN.induct` reads the motives off the goal. -/
theorem PN.induct : (∀ n, P n) ∧ (∀ a, PA a) ∧ (∀ l, PL l) :=
  have h : ∀ n, P n := PN.rec (motive_1 := P) (motive_2 := PA) (motive_3 := PL) (motive_4 := fun kn => P kn.2)
    prior lit model inst coll tuple arith both modif array list nilA (fun kn rest => consA kn.1 kn.2 rest)
    nilL consL (fun _ _ h => h)
  ⟨h, fun a => List.rec (motive := PA) nilA (fun kn rest ih => consA kn.1 kn.2 rest (h kn.2) ih) a,
   fun l => List.rec (motive := PL) nilL (fun n rest ih => consL n rest (h n) ih) l⟩
end

section
variable {P : PN V → Prop} {PA : List (String × PN V) → Prop}
  (prior : ∀ id d, P (.prior id d)) (lit : ∀ s, P (.lit s))
  (model : ∀ cp a b, PA a → P (.model cp a b))
  (inst : ∀ cp a, PA a → P (.inst cp a))
  (coll : ∀ k a b, PA a → P (.coll k a b))
  (tuple : ∀ a, PA a → P (.tuple a))
  (arith : ∀ ct ln rn l r, P l → P r → P (.arith ct ln rn l r))
  (both : ∀ x y, P x → P y → P (.both x y))
  (modif : ∀ mt name x, P x → P (.modif mt name x))
  (array : ∀ sh a, PA a → P (.array sh a))
  (list : ∀ tup l, P (.list tup l))
  (nilA : PA []) (consA : ∀ k n rest, P n → PA rest → PA ((k, n) :: rest))
include prior lit model inst coll tuple arith both modif array list nilA consA

/-- `PN.induct` for what does not look into assertions and plain lists. -/
theorem PN.induct_attrs : (∀ n, P n) ∧ (∀ a, PA a) :=
  have h := PN.induct (PL := fun _ => True) prior lit (fun cp a b ha _ => model cp a b ha) inst
    (fun k a b ha _ => coll k a b ha) tuple arith both modif array (fun tup l _ => list tup l) nilA consA
    trivial (fun _ _ _ _ => trivial)
  ⟨h.1, h.2.1⟩
end

theorem renamePNAttrs_eq_map (σ : Nat → Nat) : ∀ (a : List (String × PN V)),
    renamePNAttrs σ a = a.map fun kn => (kn.1, renamePN σ kn.2)
  | [] => rfl
  | (k, n) :: a => congrArg ((k, renamePN σ n) :: ·) (renamePNAttrs_eq_map σ a)

theorem renamePNList_eq_map (σ : Nat → Nat) : ∀ (l : List (PN V)), renamePNList σ l = l.map (renamePN σ)
  | [] => rfl
  | n :: l => congrArg (renamePN σ n :: ·) (renamePNList_eq_map σ l)

theorem canonPNAttrs_eq_map (dflt : String → List (String × Scal V)) : ∀ (a : List (String × PN V)),
    canonPNAttrs dflt a = a.map fun kn => (kn.1, canonPN dflt kn.2)
  | [] => rfl
  | (k, n) :: a => congrArg ((k, canonPN dflt n) :: ·) (canonPNAttrs_eq_map dflt a)

theorem canonPNList_eq_map (dflt : String → List (String × Scal V)) : ∀ (l : List (PN V)),
    canonPNList dflt l = l.map (canonPN dflt)
  | [] => rfl
  | n :: l => congrArg (canonPN dflt n :: ·) (canonPNList_eq_map dflt l)

theorem fillDefaults_map (f : PN V → PN V) (hf : ∀ s, f (.lit s) = .lit s) (ds : List (String × Scal V))
    (a : List (String × PN V)) :
    fillDefaults ds (a.map fun kn => (kn.1, f kn.2)) = (fillDefaults ds a).map fun kn => (kn.1, f kn.2) := by
  simp only [fillDefaults, List.map_append, List.map_map, List.any_map, Function.comp_def, hf]

theorem fillDefaults_rename (σ : Nat → Nat) (ds : List (String × Scal V)) (a : List (String × PN V)) :
    fillDefaults ds (renamePNAttrs σ a) = renamePNAttrs σ (fillDefaults ds a) := by
  rw [renamePNAttrs_eq_map, renamePNAttrs_eq_map]
  exact fillDefaults_map _ (fun _ => rfl) ds a

/-- every default key is present after the first filling, so a second one adds nothing -/
theorem fillDefaults_idem (ds : List (String × Scal V)) (a : List (String × PN V)) :
    fillDefaults ds (fillDefaults ds a) = fillDefaults ds a := by
  have h : ds.filter (fun kd => !((fillDefaults ds a).any (fun kv => kv.1 == kd.1))) = [] := by
    refine List.filter_eq_nil_iff.mpr fun kd hkd => ?_
    simp only [Bool.not_eq_true', Bool.not_eq_false, fillDefaults, List.any_append, Bool.or_eq_true, List.any_eq_true]
    by_cases hk : a.any (fun kv => kv.1 == kd.1) = true
    · exact Or.inl (List.any_eq_true.mp hk)
    · exact Or.inr ⟨(kd.1, .lit kd.2),
        List.mem_map.mpr ⟨kd, List.mem_filter.mpr ⟨hkd, by rw [Bool.not_eq_true] at hk; rw [hk]; rfl⟩, rfl⟩, beq_self_eq_true _⟩
  rw [fillDefaults, h, List.map_nil, List.append_nil]

theorem canonPNAttrs_fillDefaults (dflt : String → List (String × Scal V)) (ds : List (String × Scal V))
    (a : List (String × PN V)) (h : canonPNAttrs dflt a = a) :
    canonPNAttrs dflt (fillDefaults ds a) = fillDefaults ds a := by
  rw [canonPNAttrs_eq_map, ← fillDefaults_map _ (fun _ => rfl), ← canonPNAttrs_eq_map, h]

theorem pnLoadOrderAttrs_append : ∀ (a b : List (String × PN V)),
    pnLoadOrderAttrs (a ++ b) = pnLoadOrderAttrs a ++ pnLoadOrderAttrs b
  | [], _ => rfl
  | (_, n) :: a, b => (congrArg (pnLoadOrder n ++ ·) (pnLoadOrderAttrs_append a b)).trans (List.append_assoc ..).symm

theorem pnLoadOrderAttrs_lits : ∀ (ds : List (String × Scal V)),
    pnLoadOrderAttrs (ds.map (fun kd => (kd.1, PN.lit kd.2))) = []
  | [] => rfl
  | _ :: ds => pnLoadOrderAttrs_lits ds

theorem pnLoadOrderAttrs_fillDefaults (ds : List (String × Scal V)) (a : List (String × PN V)) :
    pnLoadOrderAttrs (fillDefaults ds a) = pnLoadOrderAttrs a := by
  unfold fillDefaults
  rw [pnLoadOrderAttrs_append, pnLoadOrderAttrs_lits, List.append_nil]

theorem pnLoadOrder_canon_all (dflt : String → List (String × Scal V)) :
    (∀ n : PN V, pnLoadOrder (canonPN dflt n) = pnLoadOrder n) ∧
    (∀ attrs : List (String × PN V), pnLoadOrderAttrs (canonPNAttrs dflt attrs) = pnLoadOrderAttrs attrs) ∧
    (∀ l : List (PN V), pnLoadOrderList (canonPNList dflt l) = pnLoadOrderList l) := by
  apply PN.induct <;> intros <;>
    simp only [canonPN, canonPNAttrs, canonPNList, pnLoadOrder, pnLoadOrderAttrs, pnLoadOrderList,
      pnLoadOrderAttrs_fillDefaults, *]

theorem pnLoadOrder_canon (dflt : String → List (String × Scal V)) : ∀ (n : PN V),
    pnLoadOrder (canonPN dflt n) = pnLoadOrder n := (pnLoadOrder_canon_all dflt).1
theorem pnLoadOrderAttrs_canon (dflt : String → List (String × Scal V)) : ∀ (attrs : List (String × PN V)),
    pnLoadOrderAttrs (canonPNAttrs dflt attrs) = pnLoadOrderAttrs attrs := (pnLoadOrder_canon_all dflt).2.1
theorem pnLoadOrderList_canon (dflt : String → List (String × Scal V)) : ∀ (l : List (PN V)),
    pnLoadOrderList (canonPNList dflt l) = pnLoadOrderList l := (pnLoadOrder_canon_all dflt).2.2

/-- the id of the prior a composition is, when it is one -/
def PN.priorId? : PN V → Option Nat
  | .prior i _ => some i
  | _ => none

theorem samePN_eq (a b : PN V) : samePN a b = sameId a.priorId? b.priorId? := by
  cases a <;> first | rfl | (cases b <;> rfl)

theorem priorId?_renamePN (σ : Nat → Nat) (a : PN V) : (renamePN σ a).priorId? = a.priorId?.map σ := by
  cases a <;> rfl

theorem priorId?_canonPN (dflt : String → List (String × Scal V)) (a : PN V) :
    (canonPN dflt a).priorId? = a.priorId? := by
  cases a <;> rfl

theorem mem_pnLoadOrder_of_priorId? {a : PN V} {i : Nat} (h : a.priorId? = some i) : i ∈ pnLoadOrder a := by
  cases a <;> cases h
  exact List.mem_singleton_self i

theorem reloadLeftName_rename (σ : Nat → Nat) (a b : PN V)
    (hinj : ∀ i j, a.priorId? = some i → b.priorId? = some j → σ i = σ j → i = j) :
    reloadLeftName (renamePN σ a) (renamePN σ b) = reloadLeftName a b := by
  unfold reloadLeftName
  rw [samePN_eq, priorId?_renamePN, priorId?_renamePN, sameId_map σ _ _ hinj, ← samePN_eq]

/-- As for the skeleton (`fromDict_toDict_le`): the renaming is read off any later state `s'`. -/
theorem fromDV_toDV_le (dflt : String → List (String × Scal V)) :
    (∀ (n : PN V) (s s' : LoadSt), s.Good → (extend s (pnLoadOrder n)).le s' →
      fromDV dflt (toDV n) s = (renamePN (sigmaOf s') (canonPN dflt n), extend s (pnLoadOrder n))) ∧
    (∀ (attrs : List (String × PN V)) (s s' : LoadSt), s.Good → (extend s (pnLoadOrderAttrs attrs)).le s' →
      fromDVArgs dflt (toDVAttrs attrs) s =
        (renamePNAttrs (sigmaOf s') (canonPNAttrs dflt attrs), extend s (pnLoadOrderAttrs attrs))) ∧
    (∀ (l : List (PN V)) (s s' : LoadSt), s.Good → (extend s (pnLoadOrderList l)).le s' →
      fromDVList dflt (toDVList l) s =
        (renamePNList (sigmaOf s') (canonPNList dflt l), extend s (pnLoadOrderList l))) := by
  apply PN.induct
  case prior =>
    intro id _ s s' _ hle
    simp only [toDV, fromDV, pnLoadOrder, extend, canonPN, renamePN, sigmaOf_of_le hle (loadPrior_lookup_self s id)]
  case arith =>
    intro _ _ _ _ _ hl hr s s' hs hle
    obtain ⟨h₁, hs₁, h₂⟩ := extend_split hs hle
    simp only [toDV, fromDV, pnLoadOrder, extend_append, canonPN, renamePN, hl s s' hs h₁, hr _ s' hs₁ h₂]
    rw [reloadLeftName_rename]
    intro i j hi hj
    rw [priorId?_canonPN] at hi hj
    exact sigmaOf_injective hs hle (List.mem_append_left _ (mem_pnLoadOrder_of_priorId? hi))
      (List.mem_append_right _ (mem_pnLoadOrder_of_priorId? hj))
  case model | coll =>
    intro _ _ _ ha hb s s' hs hle
    obtain ⟨h₁, hs₁, h₂⟩ := extend_split hs hle
    simp only [toDV, fromDV, pnLoadOrder, extend_append, canonPN, renamePN, ha s s' hs h₁, hb _ s' hs₁ h₂]
  case both =>
    intro _ _ hx hy s s' hs hle
    obtain ⟨h₁, hs₁, h₂⟩ := extend_split hs hle
    simp only [toDV, fromDV, pnLoadOrder, extend_append, canonPN, renamePN, hx s s' hs h₁, hy _ s' hs₁ h₂]
  case consA =>
    intro _ _ _ hn hr s s' hs hle
    obtain ⟨h₁, hs₁, h₂⟩ := extend_split hs hle
    simp only [toDVAttrs, fromDVArgs, pnLoadOrderAttrs, extend_append, canonPNAttrs, renamePNAttrs,
      hn s s' hs h₁, hr _ s' hs₁ h₂]
  case consL =>
    intro _ _ hn hr s s' hs hle
    obtain ⟨h₁, hs₁, h₂⟩ := extend_split hs hle
    simp only [toDVList, fromDVList, pnLoadOrderList, extend_append, canonPNList, renamePNList,
      hn s s' hs h₁, hr _ s' hs₁ h₂]
  case inst =>
    intro _ _ ha s s' hs hle
    simp only [toDV, fromDV, pnLoadOrder, canonPN, renamePN, ha s s' hs hle, fillDefaults_rename]
  case tuple => intro _ ha s s' hs hle; simp only [toDV, fromDV, pnLoadOrder, canonPN, renamePN, ha s s' hs hle]
  case modif => intro _ _ _ hx s s' hs hle; simp only [toDV, fromDV, pnLoadOrder, canonPN, renamePN, hx s s' hs hle]
  case array | list => intro _ _ ha s s' hs hle; simp only [toDV, fromDV, pnLoadOrder, canonPN, renamePN, ha s s' hs hle]
  all_goals intros; rfl

theorem fromDV_toDV (dflt : String → List (String × Scal V)) : ∀ (n : PN V) (s : LoadSt), s.Good →
    fromDV dflt (toDV n) s =
      (renamePN (sigmaOf (extend s (pnLoadOrder n))) (canonPN dflt n), extend s (pnLoadOrder n)) :=
  fun n s hs => (fromDV_toDV_le dflt).1 n s _ hs (.refl _)
theorem fromDVArgs_toDV (dflt : String → List (String × Scal V)) : ∀ (attrs : List (String × PN V)) (s : LoadSt),
    s.Good →
    fromDVArgs dflt (toDVAttrs attrs) s =
      (renamePNAttrs (sigmaOf (extend s (pnLoadOrderAttrs attrs))) (canonPNAttrs dflt attrs),
       extend s (pnLoadOrderAttrs attrs)) :=
  fun attrs s hs => (fromDV_toDV_le dflt).2.1 attrs s _ hs (.refl _)
theorem fromDVList_toDV (dflt : String → List (String × Scal V)) : ∀ (l : List (PN V)) (s : LoadSt),
    s.Good →
    fromDVList dflt (toDVList l) s =
      (renamePNList (sigmaOf (extend s (pnLoadOrderList l))) (canonPNList dflt l),
       extend s (pnLoadOrderList l)) :=
  fun l s hs => (fromDV_toDV_le dflt).2.2 l s _ hs (.refl _)

/-- `σ` never merges two of the ids in `l` -/
def InjOn (σ : Nat → Nat) (l : List Nat) : Prop := ∀ i ∈ l, ∀ j ∈ l, σ i = σ j → i = j

theorem InjOn.mono {σ : Nat → Nat} {l m : List Nat} (h : InjOn σ l) (hs : m ⊆ l) : InjOn σ m :=
  fun i hi j hj e => h i (hs hi) j (hs hj) e

theorem InjOn.append {σ : Nat → Nat} {l m : List Nat} (h : InjOn σ (l ++ m)) : InjOn σ l ∧ InjOn σ m :=
  ⟨h.mono (List.subset_append_left l m), h.mono (List.subset_append_right l m)⟩

theorem InjOn.comp {σ τ : Nat → Nat} {l : List Nat} (hσ : InjOn σ l) (hτ : InjOn τ (l.map σ)) :
    InjOn (fun i => τ (σ i)) l :=
  fun i hi j hj e => hσ i hi j hj (hτ _ (List.mem_map_of_mem hi) _ (List.mem_map_of_mem hj) e)

/-- the id map of one dictionary reload started with the id counter at `base` -/
def rtSigma (t : PN V) (base : Nat) : Nat → Nat := sigmaOf (extend { next := base } (pnLoadOrder t))

theorem rtSigma_injOn (t : PN V) (base : Nat) : InjOn (rtSigma t base) (pnLoadOrder t) :=
  fun _ hi _ hj he => sigmaOf_injective (good_init base) (.refl _) hi hj he

theorem dictRT_eq (dflt : String → List (String × Scal V)) (t : PN V) (base : Nat) :
    dictRT dflt t base = renamePN (rtSigma t base) (canonPN dflt t) :=
  congrArg Prod.fst (fromDV_toDV dflt t _ (good_init base))

theorem renamePN_congr_all (σ τ : Nat → Nat) :
    (∀ n : PN V, (∀ id ∈ pnLoadOrder n, σ id = τ id) → renamePN σ n = renamePN τ n) ∧
    (∀ attrs : List (String × PN V),
      (∀ id ∈ pnLoadOrderAttrs attrs, σ id = τ id) → renamePNAttrs σ attrs = renamePNAttrs τ attrs) ∧
    (∀ l : List (PN V), (∀ id ∈ pnLoadOrderList l, σ id = τ id) → renamePNList σ l = renamePNList τ l) := by
  apply PN.induct
  case prior => intro id _ h; simp only [renamePN, h id (List.mem_singleton_self id)]
  case model | coll =>
    intro _ _ _ ha hb h
    have ⟨h₁, h₂⟩ := List.forall_mem_append.mp h
    simp only [renamePN, ha h₁, hb h₂]
  case arith =>
    intro _ _ _ _ _ hl hr h
    have ⟨h₁, h₂⟩ := List.forall_mem_append.mp h
    simp only [renamePN, hl h₁, hr h₂]
  case both =>
    intro _ _ hx hy h
    have ⟨h₁, h₂⟩ := List.forall_mem_append.mp h
    simp only [renamePN, hx h₁, hy h₂]
  case consA =>
    intro _ _ _ hn hr h
    have ⟨h₁, h₂⟩ := List.forall_mem_append.mp h
    simp only [renamePNAttrs, hn h₁, hr h₂]
  case consL =>
    intro _ _ hn hr h
    have ⟨h₁, h₂⟩ := List.forall_mem_append.mp h
    simp only [renamePNList, hn h₁, hr h₂]
  case inst | array | list => intro _ _ ha h; simp only [renamePN, ha h]
  case tuple => intro _ ha h; simp only [renamePN, ha h]
  case modif => intro _ _ _ hx h; simp only [renamePN, hx h]
  all_goals intros; rfl

theorem renamePN_congr (σ τ : Nat → Nat) : ∀ (n : PN V),
    (∀ id ∈ pnLoadOrder n, σ id = τ id) → renamePN σ n = renamePN τ n := (renamePN_congr_all σ τ).1
theorem renamePNAttrs_congr (σ τ : Nat → Nat) : ∀ (attrs : List (String × PN V)),
    (∀ id ∈ pnLoadOrderAttrs attrs, σ id = τ id) → renamePNAttrs σ attrs = renamePNAttrs τ attrs :=
  (renamePN_congr_all σ τ).2.1
theorem renamePNList_congr (σ τ : Nat → Nat) : ∀ (l : List (PN V)),
    (∀ id ∈ pnLoadOrderList l, σ id = τ id) → renamePNList σ l = renamePNList τ l := (renamePN_congr_all σ τ).2.2

end AF
