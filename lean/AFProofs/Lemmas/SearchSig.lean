import AFModel.SearchSig
import AFModel.FitFiles

/-! Lemmas for C11 on the keyword-binding model and the file-name model, and the evaluation of their
generated tables. -/

namespace AF.SearchSig
open AF.Generated.C11

theorem mem_forwarded {s : Sig} {keys : List String} {k : String} (h : k ∈ forwarded s keys) :
    s.forwards = true ∧ k ∈ keys ∧ s.params.contains k = false ∧ s.dropped.contains k = false := by
  unfold forwarded at h
  split at h
  · rename_i hf
    simp only [extras, List.mem_filter, Bool.not_eq_true'] at h
    exact ⟨hf, h.1.1, h.1.2, h.2⟩
  · cases h

theorem mem_keysOf {r : SearchSig} {k : String} :
    k ∈ keysOf r ↔ (k ∈ getArguments r.chain ∨ k ∈ r.idf) ∧ k ∉ r.absent := by
  simp [keysOf, List.mem_eraseDups]

/-- The three facts about the constructor chains regenerated from the source are one statement, because the kernel
turns the table's string literals into byte arrays once per declaration and that is most of the work. -/
theorem searchSigTable_checked : ∀ r ∈ searchSigTable, absorbing r.chain = true ∧
    (∀ f ∈ r.idf, f ∉ r.absent) ∧
    (∀ k ∈ r.candidates, k ∈ getArguments r.chain) ∧ (∀ k ∈ getArguments r.chain, k ∈ r.candidates) := by
  decide +kernel

end AF.SearchSig

namespace AF.FitFiles
open AF.Generated.C11

theorem isPrefix_append (a b : List String) : isPrefix a (a ++ b) = true := by
  induction a with
  | nil => simp [isPrefix]
  | cons x xs ih => simp [isPrefix, ih]

theorem user_file_collected {ws : List WFile} {ls : List Lookup} {k : Kind} {d : List String} {e : String}
    (hw : writerPlace ws k = some (d, e)) (hl : ⟨k.accessor, "rglob", ⟨d, "", e⟩⟩ ∈ ls)
    (pre : List String) (name : String) :
    pathFor ws k pre name = some ⟨d ++ pre, name, e⟩ ∧ k.accessor ∈ consumers ls ⟨d ++ pre, name, e⟩ := by
  refine ⟨by simp [pathFor, hw], List.mem_append_left _ (List.mem_map.2 ⟨_, List.mem_filter.2 ⟨hl, ?_⟩, rfl⟩)⟩
  have : ("rglob" == "file") = false := by decide
  simp [hits, this, isPrefix_append]

/-- the writer's files against the reader's lookups, in one evaluation for the same reason -/
theorem writerFiles_checked :
    (∀ w ∈ writerFiles, (∀ c ∈ mustReach w, c ∈ consumers readerLookups w.file) ∧
      (w.file.dir ≠ [] → mustReach w ≠ []) ∧ (consumers readerLookups w.file ≠ [] ∨ w.file ∈ textOnly)) ∧
    ∀ k ∈ [Kind.json, .pickle, .csv, .fits], ∃ e ∈ [".json", ".pickle", ".csv", ".fits"],
      writerPlace writerFiles k = some (["files"], e) ∧
        ⟨k.accessor, "rglob", ⟨["files"], "", e⟩⟩ ∈ readerLookups := by
  decide +kernel

end AF.FitFiles
