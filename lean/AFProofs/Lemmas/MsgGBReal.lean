import AFProofs.Lemmas.MsgGB
import AFProofs.Lemmas.MsgReal
import Mathlib.Probability.Distributions.Gamma
import Mathlib.Probability.Distributions.Beta

/-! The real-number instance of the special functions of the Gamma / Beta part of `AF.Msg` and the two densities. -/

namespace AF.Msg

open Real ProbabilityTheory MeasureTheory Set

/-- the real functions behind `gammaln`, `log1p`, `**`, `abs`; on the reals `nan_to_num` is the identity;
`digamma`, `polygamma(1, ·)` and the constants of the starting guess are taken from an arbitrary `sp` -/
noncomputable def realSp (sp : Sp ℝ) : Sp ℝ :=
  { sp with
    lgamma := fun x => Real.log (Real.Gamma x)
    log1p := fun y => Real.log (1 + y)
    rpow := fun x y => x ^ y
    nanToNum := id
    nanToNum0 := id
    abs := fun x => |x| }

theorem exp_logpdf_gamma_formula (sp0 : Fn ℝ) (sp : Sp ℝ) (a : Base ℝ) (hg : a.fam = .gamma) (hα : 0 < a.p1)
    (hβ : 0 < a.p2) (x : ℝ) (hx : 0 < x) :
    Real.exp (a.logpdfX (realFn sp0) (realSp sp) x) =
      a.p2 ^ a.p1 / Real.Gamma a.p1 * (x ^ (a.p1 - 1) * Real.exp (-(a.p2 * x))) := by
  obtain ⟨fam, al, be, ln, idn, lo, hi⟩ := a
  simp only at hg hα hβ; subst hg
  have hΓ : 0 < Real.Gamma al := Real.Gamma_pos_of_pos hα
  simp only [Base.logpdfX, Base.logpdfRaw, Base.natural, calcNatural, logPartitionGB, invertNatural, toCanonical,
    logBase, realFn, realSp, id_eq, sub_add_cancel, neg_neg]
  rw [Real.rpow_def_of_pos hβ, Real.rpow_def_of_pos hx, zero_add, Real.exp_sub, Real.exp_add, Real.exp_sub,
    Real.exp_log hΓ, div_div_eq_mul_div, mul_comm (al - 1), mul_comm al, neg_mul]
  ring

theorem exp_logpdf_beta_formula (sp0 : Fn ℝ) (sp : Sp ℝ) (a : Base ℝ) (hb : a.fam = .beta) (hα : 0 < a.p1)
    (hβ : 0 < a.p2) (x : ℝ) (hx0 : 0 < x) (hx1 : x < 1) :
    Real.exp (a.logpdfX (realFn sp0) (realSp sp) x) =
      1 / ProbabilityTheory.beta a.p1 a.p2 * x ^ (a.p1 - 1) * (1 - x) ^ (a.p2 - 1) := by
  obtain ⟨fam, al, be, ln, idn, lo, hi⟩ := a
  simp only at hb hα hβ; subst hb
  have h1 : 0 < Real.Gamma al := Real.Gamma_pos_of_pos hα
  have h2 : 0 < Real.Gamma be := Real.Gamma_pos_of_pos hβ
  have h3 : 0 < Real.Gamma (al + be) := Real.Gamma_pos_of_pos (add_pos hα hβ)
  simp only [Base.logpdfX, Base.logpdfRaw, Base.natural, calcNatural, logPartitionGB, invertNatural, toCanonical,
    logBase, realFn, realSp, id_eq, sub_add_cancel]
  rw [ProbabilityTheory.beta, Real.rpow_def_of_pos hx0, Real.rpow_def_of_pos (sub_pos.2 hx1), ← sub_eq_add_neg 1 x,
    zero_add, Real.exp_sub, Real.exp_add, Real.exp_sub, Real.exp_add, Real.exp_log h1, Real.exp_log h2, Real.exp_log h3,
    one_div_div, div_div_eq_mul_div, mul_comm (al - 1), mul_comm (be - 1)]
  ring

theorem setLIntegral_beta_formula {α β : ℝ} (hα : 0 < α) (hβ : 0 < β) :
    ∫⁻ x in Ioo 0 1, ENNReal.ofReal (1 / ProbabilityTheory.beta α β * x ^ (α - 1) * (1 - x) ^ (β - 1)) = 1 :=
  lintegral_betaPDF.symm.trans (lintegral_betaPDF_eq_one hα hβ)

/-- multiplying the Beta density formula by a power `v` of `x` changes its normalising constant from `B` to `B'` -/
theorem beta_formula_mul (B B' u v w : ℝ) (hB' : B' ≠ 0) :
    1 / B * u * w * v = B' / B * (1 / B' * (u * v) * w) := by
  rw [← mul_assoc, ← mul_assoc, div_mul_div_comm, mul_one, div_mul_cancel_right₀ hB', one_div]
  ring

theorem beta_add_one {α β : ℝ} (hα : 0 < α) (hβ : 0 < β) :
    ProbabilityTheory.beta (α + 1) β = α / (α + β) * ProbabilityTheory.beta α β := by
  rw [ProbabilityTheory.beta, ProbabilityTheory.beta, add_right_comm, Real.Gamma_add_one hα.ne',
    Real.Gamma_add_one (add_pos hα hβ).ne', mul_assoc, mul_div_mul_comm]

end AF.Msg
