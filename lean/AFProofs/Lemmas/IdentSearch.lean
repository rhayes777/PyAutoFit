import AFModel.IdentSearch
import AFProofs.Lemmas.IdentComp

/-! Lemmas for C07: the generated table of identifying search settings. -/

namespace AF.IdentSearch
open AF AF.Generated.C07

theorem tokensFields_append2 (keep) : ∀ (a b : List (String × PyVal)),
    tokensFields keep (a ++ b) = tokensFields keep a ++ tokensFields keep b := by
  simp only [IdentComp.tokensFields_eq, List.flatMap_append, implies_true]

theorem tokens_searchVal (row : SearchRow) (σ : String → PyVal) :
    tokens (searchVal row σ) = row.name :: tokensFields (fun _ => true) (row.idf.map fun f => (f, σ f)) := by
  simp only [searchVal, tokens]

theorem search_tokens_only_identifying (row : SearchRow) (σ τ : String → PyVal) (h : ∀ f ∈ row.idf, σ f = τ f) :
    tokens (searchVal row σ) = tokens (searchVal row τ) := by
  have e : row.idf.map (fun f => (f, σ f)) = row.idf.map (fun f => (f, τ f)) :=
    List.map_congr_left fun f hf => by rw [h f hf]
  rw [tokens_searchVal, tokens_searchVal, e]

theorem search_field_sensitive (row : SearchRow) (hn : row.idf.Nodup) (f : String) (hf : f ∈ row.idf) (hs : skipKey f = false)
    (σ τ : String → PyVal) (hd : tokens (σ f) ≠ tokens (τ f)) (hsame : ∀ g, g ≠ f → σ g = τ g) :
    tokens (searchVal row σ) ≠ tokens (searchVal row τ) := by
  obtain ⟨pre, post, e⟩ := List.append_of_mem hf
  rw [e, List.nodup_append] at hn
  -- `f` occurs once, so the settings before and after it are the same under `σ` and `τ`
  have hpre : pre.map (fun g => (g, σ g)) = pre.map (fun g => (g, τ g)) :=
    List.map_congr_left fun g hg => by rw [hsame g (fun c => hn.2.2 g hg f (List.mem_cons_self ..) c)]
  have hpost : post.map (fun g => (g, σ g)) = post.map (fun g => (g, τ g)) :=
    List.map_congr_left fun g hg => by rw [hsame g (fun c => (List.nodup_cons.mp hn.2.1).1 (c ▸ hg))]
  simp only [tokens_searchVal, e, List.map_append, List.map_cons, hpre, hpost, ne_eq, List.cons.injEq, true_and]
  exact fun e => hd ((IdentComp.fields_eq_iff _ _ _ f _ _ rfl hs).mp e)

/-- One statement, because the kernel turns each string literal into bytes once per declaration and that is most
of the work. -/
theorem table_rows : ∀ row ∈ searchTable,
    row.idf.Nodup ∧ (∀ f ∈ row.idf, skipKey f = false) ∧ ∀ g ∈ row.others, g ∉ row.idf := by
  decide +kernel

theorem prior_table_matches : ∀ k ∈ allKinds, priorTable.lookup k.className = some (priorFieldNames k) := by
  decide +kernel
theorem prior_table_complete : priorTable.map (·.1) = ["GaussianPrior", "LogGaussianPrior", "LogUniformPrior", "UniformPrior"] :=
  rfl

end AF.IdentSearch
