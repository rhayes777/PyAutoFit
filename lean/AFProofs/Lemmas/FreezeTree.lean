import AFModel.FreezeTree

/-!
The invariant of a frozen cache, shared by the version machine of `AFModel/Freeze.lean` and the
composition machine of `AFModel/FreezeTree.lean`, with one preservation lemma per shape of operation;
then the lemmas of the composition machine.
-/

namespace AF

/-- `below k d`: node `k` reaches `d`; `e`: the empty cache; `good k c`: the entries of `c` are what
node `k` answers now. `C13.Inv` and `FT.TInv` are instances. -/
structure CacheInv {α C : Type} (below : α → α → Prop) (e : C) (good : α → C → Prop)
    (fr : α → Bool) (ca : α → C) : Prop where
  current : ∀ k, good k (ca k)
  only_frozen : ∀ k, fr k = false → ca k = e
  down : ∀ k d, fr k = true → below k d → fr d = true

namespace CacheInv
variable {α C : Type} {below : α → α → Prop} {e : C} {good : α → C → Prop} {fr : α → Bool} {ca : α → C}

theorem freeze (h : CacheInv below e good fr ca) (R : α → Prop) [DecidablePred R]
    (hR : ∀ k d, R k → below k d → R d) :
    CacheInv below e good (fun k => if R k then true else fr k) ca where
  current := h.current
  only_frozen k hk := by
    split at hk
    · cases hk
    · exact h.only_frozen k hk
  down k d hk hd := by
    split at hk
    · next hm => rw [if_pos (hR k d hm hd)]
    · rw [h.down k d hk hd, ite_self]

theorem unfreeze (h : CacheInv below e good fr ca) (he : ∀ k, good k e) (R : α → Prop) [DecidablePred R]
    (hR : ∀ k d, fr k = true → below k d → R d → R k) :
    CacheInv below e good (fun k => if R k then false else fr k) (fun k => if R k then e else ca k) where
  current k := by
    split
    · exact he k
    · exact h.current k
  only_frozen k hk := by
    split
    · rfl
    · next hm => rw [if_neg hm] at hk; exact h.only_frozen k hk
  down k d hk hd := by
    split at hk
    · cases hk
    · next hm => rw [if_neg (fun hd' => hm (hR k d hk hd hd'))]; exact h.down k d hk hd

theorem store [DecidableEq α] (h : CacheInv below e good fr ca) (n : α) (c : C) (hc : good n c)
    (hn : fr n = false → c = e) : CacheInv below e good fr (fun k => if k = n then c else ca k) where
  current k := by
    split
    · next hk => exact hk ▸ hc
    · exact h.current k
  only_frozen k hk := by
    split
    · next hkn => exact hn (hkn ▸ hk)
    · exact h.only_frozen k hk
  down := h.down

/-- a modification changes what nodes answer, but not what a frozen node answers; the caches of the
others are empty -/
theorem recompute (h : CacheInv below e good fr ca) (good' : α → C → Prop) (he : ∀ k, good' k e)
    (hg : ∀ k, fr k = true → good k (ca k) → good' k (ca k)) : CacheInv below e good' fr ca where
  current k := by
    cases hk : fr k with
    | false => rw [h.only_frozen k hk]; exact he k
    | true => exact hg k hk (h.current k)
  only_frozen := h.only_frozen
  down := h.down

theorem unfreeze_below {good : Path → C → Prop} {fr : Path → Bool} {ca : Path → C}
    (h : CacheInv (· <+: ·) e good fr ca) (he : ∀ k, good k e) (r : Path)
    (hr : ∀ q, q <+: r → q ≠ r → fr q = false) :
    CacheInv (· <+: ·) e good (fun x => if r.isPrefixOf x then false else fr x)
      (fun x => if r.isPrefixOf x then e else ca x) := by
  refine h.unfreeze he (fun x => r.isPrefixOf x = true) fun q q' hq hqq hr' => ?_
  -- `q` and `r` both reach `q'`, so they are comparable
  rcases List.prefix_or_prefix_of_prefix (List.isPrefixOf_iff_prefix.mp hr') hqq with h1 | h1
  · exact List.isPrefixOf_iff_prefix.mpr h1
  · by_cases hne : q = r
    · exact List.isPrefixOf_iff_prefix.mpr (hne ▸ List.prefix_refl _)
    · rw [hr q h1 hne] at hq; cases hq

end CacheInv
end AF

namespace AF.FT
open AF

variable {V : Type}

theorem lookupAttr_setKey_self (k : String) (v : Node V) (l : List (String × Node V)) :
    lookupAttr (setKey k v l) k = some v := by
  fun_induction setKey k v l <;> simp_all [lookupAttr]

theorem lookupAttr_eraseKey_self (k : String) (l : List (String × Node V)) :
    lookupAttr (eraseKey k l) k = none := by
  fun_induction eraseKey k l <;> simp_all [lookupAttr]

theorem lookupAttr_updKey_self (k : String) (g : Node V → Node V) (l : List (String × Node V)) :
    lookupAttr (updKey k g l) k = (lookupAttr l k).map g := by
  fun_induction updKey k g l <;> simp_all [lookupAttr]

/-- an edit of a `__dict__` that touches the key `k` only -/
def KeepsOthers (k : String) (f : List (String × Node V) → List (String × Node V)) : Prop :=
  ∀ l b, b ≠ k → lookupAttr (f l) b = lookupAttr l b

theorem keeps_setKey (k : String) (v : Node V) : KeepsOthers k (setKey k v) := by
  intro l b hb
  fun_induction setKey k v l <;> simp_all [lookupAttr, Ne.symm hb]

theorem keeps_eraseKey (k : String) : KeepsOthers (V := V) k (eraseKey k) := by
  intro l b hb
  fun_induction eraseKey k l <;> simp_all [lookupAttr, Ne.symm hb]

theorem keeps_updKey (k : String) (g : Node V → Node V) : KeepsOthers k (updKey k g) := by
  intro l b hb
  fun_induction updKey k g l <;> simp_all [lookupAttr, Ne.symm hb]

/-- a leaf has no `__dict__` to replace -/
theorem withAttrs_cases (n : Node V) (l : List (String × Node V)) :
    (n.withAttrs l).attrs = l ∨ (n.withAttrs l = n ∧ n.attrs = []) := by
  cases n with
  | model | coll | tuple | arith | modif | array => exact .inl rfl
  | _ => exact .inr ⟨rfl, rfl⟩

theorem attrs_withAttrs_updKey (n : Node V) (a : String) (g : Node V → Node V) :
    (n.withAttrs (updKey a g n.attrs)).attrs = updKey a g n.attrs := by
  rcases withAttrs_cases n (updKey a g n.attrs) with h | ⟨h, h0⟩
  · exact h
  · rw [h, h0]; rfl

theorem lookup_withAttrs_keeps (n : Node V) {k : String} {f} (hf : KeepsOthers k f) {b : String}
    (hb : b ≠ k) : lookupAttr (n.withAttrs (f n.attrs)).attrs b = lookupAttr n.attrs b := by
  rcases withAttrs_cases n (f n.attrs) with h | ⟨h, _⟩
  · rw [h, hf _ b hb]
  · rw [h]

theorem at_cons (n : Node V) (b : String) (q : Path) :
    n.at (b :: q) = match lookupAttr n.attrs b with
      | some c => c.at q
      | none => none := rfl

theorem at_singleton (n : Node V) (b : String) : n.at [b] = lookupAttr n.attrs b := by
  rw [at_cons]; cases lookupAttr n.attrs b <;> rfl

/-- every place that is neither on the way to the edited object nor below the edited attribute
holds what it held -/
theorem at_updAt_other {k : String} {f} (hf : KeepsOthers (V := V) k f) :
    ∀ (p : Path) (t : Node V) {q : Path}, ¬ q <+: p → ¬ (p ++ [k]) <+: q →
      (updAt f p t).at q = t.at q
  | _, _, [], h1, _ => absurd List.nil_prefix h1
  | [], t, b :: q', _, h2 => by
    have hb : b ≠ k := fun e => h2 (e ▸ (List.prefix_cons_inj b).mpr List.nil_prefix)
    simp only [updAt, at_cons, lookup_withAttrs_keeps t hf hb]
  | a :: p', t, b :: q', h1, h2 => by
    simp only [updAt, at_cons, attrs_withAttrs_updKey]
    by_cases hba : b = a
    · subst hba
      rw [lookupAttr_updKey_self]
      cases lookupAttr t.attrs b with
      | none => rfl
      | some c =>
        exact at_updAt_other hf p' c (fun hp => h1 ((List.prefix_cons_inj b).mpr hp))
          (fun hp => h2 ((List.prefix_cons_inj b).mpr hp))
    · rw [keeps_updKey a _ _ b hba]

theorem at_updAt_self (f : List (String × Node V) → List (String × Node V)) :
    ∀ (p : Path) (t : Node V), (updAt f p t).at p = (t.at p).map (fun n => n.withAttrs (f n.attrs))
  | [], t => rfl
  | a :: p', t => by
    simp only [updAt, at_cons, attrs_withAttrs_updKey, lookupAttr_updKey_self]
    cases lookupAttr t.attrs a with
    | none => rfl
    | some c => exact at_updAt_self f p' c

theorem at_append : ∀ (p q : Path) (t : Node V),
    t.at (p ++ q) = match t.at p with
      | some n => n.at q
      | none => none
  | [], q, t => rfl
  | a :: p', q, t => by
    simp only [List.cons_append, at_cons]
    cases lookupAttr t.attrs a with
    | none => rfl
    | some c => exact at_append p' q c

/-- every entry of the cache is the value of its function on the composition `n` -/
structure CacheOK {V} (c : TCache) (n : Node V) : Prop where
  walk : ∀ w, c.walk = some w → w = AF.walk n
  attr : ∀ a, c.attr = some a → a = attrOf (AF.walk n)
  unique : ∀ u, c.unique = some u → u = uniqueIds n
  ordered : ∀ o, c.ordered = some o → o = uniqueIds n

theorem cacheOK_empty (n : Node V) : CacheOK TCache.empty n :=
  ⟨fun _ h => (nomatch h), fun _ h => (nomatch h), fun _ h => (nomatch h), fun _ h => (nomatch h)⟩

theorem getWalk_ok {c : TCache} {n : Node V} (h : CacheOK c n) :
    CacheOK (c.getWalk n).1 n ∧ (c.getWalk n).2 = AF.walk n := by
  unfold TCache.getWalk
  split
  · next w hw => exact ⟨h, h.walk w hw⟩
  · exact ⟨⟨fun _ e => (Option.some.inj e).symm, h.attr, h.unique, h.ordered⟩, rfl⟩

theorem getAttr_ok {c : TCache} {n : Node V} (h : CacheOK c n) :
    CacheOK (c.getAttr n).1 n ∧ (c.getAttr n).2 = attrOf (AF.walk n) := by
  unfold TCache.getAttr
  split
  · next a ha => exact ⟨h, h.attr a ha⟩
  · exact ⟨⟨h.walk, fun _ e => (Option.some.inj e).symm, h.unique, h.ordered⟩, rfl⟩

theorem attrOf_ids (w : List (Path × Nat)) : (attrOf w).map (·.2) = w.map (·.2) := by
  simp [attrOf, List.map_map, Function.comp_def]

theorem getUnique_ok {c : TCache} {n : Node V} (h : CacheOK c n) :
    CacheOK (c.getUnique n).1 n ∧ (c.getUnique n).2 = uniqueIds n := by
  unfold TCache.getUnique
  split
  · next u hu => exact ⟨h, h.unique u hu⟩
  · have ha := getAttr_ok h
    have hu : sortDedup ((c.getAttr n).2.map (·.2)) = uniqueIds n := by rw [ha.2, attrOf_ids]; rfl
    exact ⟨⟨ha.1.walk, ha.1.attr, fun _ e => (Option.some.inj e).symm.trans hu, ha.1.ordered⟩, hu⟩

theorem getOrdered_ok {c : TCache} {n : Node V} (h : CacheOK c n) :
    CacheOK (c.getOrdered n).1 n ∧ (c.getOrdered n).2 = uniqueIds n := by
  unfold TCache.getOrdered
  split
  · next o ho => exact ⟨h, h.ordered o ho⟩
  · have hu := getUnique_ok h
    exact ⟨⟨hu.1.walk, hu.1.attr, hu.1.unique, fun _ e => (Option.some.inj e).symm.trans hu.2⟩, hu.2⟩

section
variable [Inhabited V] (ops : Ops V)

theorem tqueryFrozen_ok {c : TCache} {n : Node V} (q : TQuery V) (h : CacheOK c n) :
    CacheOK (tqueryFrozen ops c n q).1 n ∧ (tqueryFrozen ops c n q).2 = tanswer ops n q := by
  have hw := getWalk_ok h
  have hu := getUnique_ok h
  cases q with
  | count => exact ⟨hu.1, by simp only [tqueryFrozen, tanswer, hu.2]; rfl⟩
  | paths | pathIds | uniquePaths => exact ⟨hw.1, by simp only [tqueryFrozen, tanswer, hw.2]; rfl⟩
  | ids =>
    have := getOrdered_ok h
    exact ⟨this.1, by simp only [tqueryFrozen, tanswer, this.2]⟩
  | inst v =>
    have ho := getOrdered_ok hu.1
    simp only [tqueryFrozen, tanswer, hu.2, ho.2, count]
    split
    · next hl => exact ⟨hu.1, (if_pos hl).symm⟩
    · next hl => exact ⟨ho.1, (if_neg hl).symm⟩

theorem tquery_ok (fr : Bool) {c : TCache} {n : Node V} (q : TQuery V) (h : CacheOK c n) :
    CacheOK (tquery ops fr c n q).1 n ∧ (tquery ops fr c n q).2 = tanswer ops n q :=
  match fr with
  | true => tqueryFrozen_ok ops q h
  | false => ⟨h, (tqueryFrozen_ok ops q (cacheOK_empty n)).2⟩

end

structure TInv {V} (s : TState V) : Prop where
  /-- every cached entry is the value of its function on the composition now at that place -/
  cache_current : ∀ q n, s.tree.at q = some n → CacheOK (s.cache q) n
  /-- only frozen objects hold entries -/
  cache_only_frozen : ∀ q, s.frozen q = false → s.cache q = TCache.empty
  /-- everything below a frozen object is frozen -/
  frozen_down : ∀ q q', s.frozen q = true → q <+: q' → s.frozen q' = true

theorem tinv_iff (s : TState V) : TInv s ↔ CacheInv (· <+: ·) TCache.empty
    (fun q c => ∀ n, s.tree.at q = some n → CacheOK c n) s.frozen s.cache :=
  ⟨fun h => ⟨h.1, h.2, h.3⟩, fun h => ⟨h.1, h.2, h.3⟩⟩

theorem tinv_init (t : Node V) : TInv (TState.init t) :=
  ⟨fun _ n _ => cacheOK_empty n, fun _ _ => rfl, fun _ _ h _ => nomatch h⟩

theorem unfrozen_above_of_safe {s : TState V} {p a : Path} (h : tunfreezeSafe s p = true)
    (ha : a <+: p) (hne : a ≠ p) : s.frozen a = false := by
  simp only [tunfreezeSafe, List.all_eq_true, List.mem_range, Bool.not_eq_true'] at h
  rw [List.prefix_iff_eq_take.mp ha]
  exact h a.length (Nat.lt_of_not_le fun hl => hne (ha.eq_of_length_le hl))

theorem modPlan_keeps (n : Node V) (op : TOp V) : ∀ kf ∈ modPlan n op, KeepsOthers kf.1 kf.2 := by
  fun_cases modPlan n op <;>
    simp only [Option.mem_some_iff, forall_eq', Option.not_mem_none, false_imp_iff, implies_true]
  · exact keeps_updKey _ _
  · exact keeps_setKey _ _
  · exact keeps_setKey _ _
  · exact keeps_setKey _ _
  · exact keeps_eraseKey _

/-- what is held under the changed attribute starts unfrozen and cold (an unfreeze of that region);
the edit then changes the composition only there and above the unfrozen `p` -/
theorem tmodify_preserves {s : TState V} (p : Path) (op : TOp V) (h : TInv s) :
    TInv (tmodify s p op).1 := by
  unfold tmodify
  split
  · exact h
  next n hat =>
  split
  · exact h
  next hf =>
  split
  · exact h
  next k f hplan =>
  rw [tinv_iff] at h ⊢
  have habove : ∀ q, q <+: p → s.frozen q = false := fun q hq =>
    Bool.eq_false_iff.mpr fun hfq => hf (h.down q p hfq hq)
  refine (h.unfreeze_below (fun _ m _ => cacheOK_empty m) (p ++ [k]) fun q hq hne =>
    habove q ((List.prefix_concat_iff.mp hq).resolve_left hne)).recompute
    _ (fun _ m _ => cacheOK_empty m) ?_
  intro q hq hg m hm
  split at hq
  · cases hq
  · next hpk =>
    have hqp : ¬ q <+: p := fun hqp => by rw [habove q hqp] at hq; cases hq
    rw [at_updAt_other (modPlan_keeps n op _ hplan) p s.tree hqp
      (fun hc => hpk (List.isPrefixOf_iff_prefix.mpr hc))] at hm
    exact hg m hm

theorem tmodify_at {s : TState V} {p : Path} {op : TOp V} {n : Node V} {k : String} {f}
    (hat : s.tree.at p = some n) (hf : s.frozen p = false) (hplan : modPlan n op = some (k, f)) :
    (tmodify s p op).2 = .done ∧ (tmodify s p op).1.tree.at p = some (n.withAttrs (f n.attrs)) := by
  simp only [tmodify, hat, hf, hplan, Bool.false_eq_true, if_false, true_and]
  exact (at_updAt_self f p s.tree).trans (congrArg _ hat)

/-- is the operation covered, in this state? -/
def topOk {V} (s : TState V) : TOp V → Prop
  | .unfreeze p => tunfreezeSafe s p = true
  | _ => True

theorem tstep_preserves {V} [Inhabited V] (ops : Ops V) (s : TState V) (op : TOp V) (h : TInv s)
    (hop : topOk s op) : TInv (tstep ops s op).1 := by
  cases op with
  | query p q =>
    simp only [tstep]
    split
    · exact h
    next n hat =>
    split
    · rw [tinv_iff] at h ⊢
      refine h.store p _ (fun m hm => ?_) (fun hf => ?_)
      · cases hat.symm.trans hm
        exact (tquery_ok ops _ q (h.current p n hat)).1
      · rw [hf]; exact h.only_frozen p hf
    · exact h
  | freeze p =>
    rw [tinv_iff] at h ⊢
    exact h.freeze (fun x => p.isPrefixOf x = true) fun k d hk hd =>
      List.isPrefixOf_iff_prefix.mpr ((List.isPrefixOf_iff_prefix.mp hk).trans hd)
  | unfreeze p =>
    rw [tinv_iff] at h ⊢
    exact h.unfreeze_below (fun _ m _ => cacheOK_empty m) p fun _ => unfrozen_above_of_safe hop
  | setAttr p k v => exact tmodify_preserves p _ h
  | remove p k => exact tmodify_preserves p _ h
  | failing p => exact h

/-- **a query is answered from the current composition** -/
theorem tstep_query_fresh [Inhabited V] (ops : Ops V) {s : TState V} (p : Path) (q : TQuery V) {n : Node V} (h : TInv s)
    (hat : s.tree.at p = some n) (ho : n.isObj = true) :
    (tstep ops s (.query p q)).2 = .answered (tanswer ops n q) := by
  simp only [tstep, hat, ho, if_true, (tquery_ok ops _ q (h.cache_current p n hat)).2]

end AF.FT
