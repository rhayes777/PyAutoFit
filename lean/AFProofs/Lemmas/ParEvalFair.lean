import AFModel.ParFair
import AFProofs.Lemmas.ParEval

/-!
Termination of `SneakyPool.map` (C14).  `MapSt.phi` (`P * mu + dist`: `MapSt.phi_eq`) never increases and the turn of an enabled actor strictly
decreases it; an enabled actor stays enabled until it is served (`Move.persists`), and while the caller has not
finished some actor is enabled.  Hence every fair round decreases `phi`, and from every state some continuation
finishes.
-/

namespace AF.ParEval
variable {α : Type} {js : List (Res α)} {s s' : MapSt α} {a : Nat}

/-- A schedule with a complete round left, scanned while the actors `m` are still to be served, splits at the end of
that round; `fairRounds P evs` is by definition `fairScan P (List.range (P + 1)) evs`. -/
theorem fairScan_split (P : Nat) (evs : List Nat) : ∀ (m : List Nat) (n : Nat), n + 1 ≤ fairScan P m evs →
    ∃ r rest, evs = r ++ rest ∧ (∀ a ∈ m, a ∈ r) ∧ n ≤ fairRounds P rest := by
  induction evs with
  | nil => intro m n h; simp [fairScan] at h
  | cons e t ih =>
    intro m n h
    have hm : ∀ a ∈ m, a = e ∨ a ∈ m.filter (· != e) := fun a ha => by
      by_cases hae : a = e
      · exact .inl hae
      · exact .inr (by simp [List.mem_filter, ha, hae])
    unfold fairScan at h
    split at h
    · rename_i hemp
      rw [List.isEmpty_iff] at hemp
      refine ⟨[e], t, rfl, fun a ha => ?_, by unfold fairRounds; omega⟩
      rcases hm a ha with rfl | h'
      · exact List.mem_cons_self
      · rw [hemp] at h'; cases h'
    · obtain ⟨r, rest, he, hall, hn⟩ := ih _ n h
      exact ⟨e :: r, rest, by rw [he]; rfl,
        fun a ha => (hm a ha).elim (· ▸ List.mem_cons_self) (fun h' => List.mem_cons_of_mem _ (hall a h')), hn⟩

theorem firstReady_lt (l : List (Worker α)) (h : l ≠ []) : firstReady l < l.length := by
  induction l with
  | nil => exact absurd rfl h
  | cons w t ih =>
    unfold firstReady
    by_cases hw : w.ready = true
    · simp [hw]
    · simp only [hw]
      by_cases ht : t.any Worker.ready = true
      · have htne : t ≠ [] := by intro e; rw [e] at ht; simp at ht
        have := ih htne
        simp only [ht, if_true, List.length_cons]
        split <;> omega
      · simp [ht]

theorem firstReady_append_of_any (t x : List (Worker α)) (h : t.any Worker.ready = true) :
    firstReady (t ++ x) = firstReady t := by
  induction t with
  | nil => simp at h
  | cons w t ih =>
    simp only [List.cons_append, firstReady]
    by_cases hw : w.ready = true
    · simp [hw]
    · simp only [hw]
      have ht : t.any Worker.ready = true := by simpa only [List.any_cons, Bool.or_eq_true, hw, Bool.false_eq_true, false_or] using h
      have hx : (t ++ x).any Worker.ready = true := by simp [List.any_append, ht]
      simp only [ht, hx, if_true, ih ht]

theorem firstReady_eq_zero (l : List (Worker α)) (h : l.any Worker.ready = false) : firstReady l = 0 := by
  cases l with
  | nil => rfl
  | cons w t =>
    simp only [List.any_cons, Bool.or_eq_false_iff] at h
    simp [firstReady, h.1, h.2]

/-- passing an empty result queue: the rest of the polling order comes one step closer -/
theorem firstReady_rotate (a : Worker α) (t : List (Worker α)) (ha : a.ready = false) :
    firstReady (t ++ [a]) + (if t.any Worker.ready = true then 1 else 0) = firstReady (a :: t) := by
  by_cases ht : t.any Worker.ready = true
  · rw [firstReady_append_of_any t [a] ht]
    simp [firstReady, ha, ht]
  · have ht' : t.any Worker.ready = false := by simpa using ht
    have : (t ++ [a]).any Worker.ready = false := by simp [List.any_append, ht', ha]
    rw [firstReady_eq_zero _ this]
    simp [firstReady, ha, ht']

theorem rot_length (s : MapSt α) (h : s.cursor ≤ s.ws.length) : s.rot.length = s.ws.length := by
  simp only [MapSt.rot, List.length_append, List.length_drop, List.length_take]
  omega

theorem dist_lt (s : MapSt α) (hc : s.cursor < s.ws.length) : s.dist < s.ws.length := by
  have hl := rot_length s (Nat.le_of_lt hc)
  have := firstReady_lt s.rot fun e => by rw [e] at hl; simp at hl; omega
  rwa [hl] at this

/-- the polling order before and after the cursor passes worker `cursor` -/
theorem rot_skip (s : MapSt α) (a : Worker α) (hc : s.ws[s.cursor]? = some a) :
    s.rot = a :: (s.ws.drop (s.cursor + 1) ++ s.ws.take s.cursor) ∧
      s.passed.rot =
        (s.ws.drop (s.cursor + 1) ++ s.ws.take s.cursor) ++ [a] := by
  have hlt := lt_of_getElem?_some hc
  have ha : s.ws[s.cursor] = a := by
    rw [List.getElem?_eq_getElem hlt] at hc
    exact Option.some.inj hc
  have hdrop : s.ws.drop s.cursor = a :: s.ws.drop (s.cursor + 1) := by
    rw [List.drop_eq_getElem_cons hlt, ha]
  have htake : s.ws.take (s.cursor + 1) = s.ws.take s.cursor ++ [a] := by
    rw [List.take_add_one, hc]; rfl
  constructor
  · simp only [MapSt.rot, hdrop, List.cons_append]
  · by_cases hn : s.cursor + 1 < s.ws.length
    · simp only [MapSt.rot, MapSt.passed, hn, if_true, htake, List.append_assoc]
    · have hd : s.ws.drop (s.cursor + 1) = [] := List.drop_eq_nil_of_le (by omega)
      have ht : s.ws.take (s.cursor + 1) = s.ws := List.take_of_length_le (by omega)
      simp only [MapSt.rot, MapSt.passed, hn, if_false, List.drop_zero, List.take_zero, List.append_nil, hd, List.nil_append]
      rw [← htake, ht]

theorem rot_any (s : MapSt α) : s.rot.any Worker.ready = s.ws.any Worker.ready := by
  have : s.ws = s.ws.take s.cursor ++ s.ws.drop s.cursor := (List.take_append_drop _ _).symm
  conv => rhs; rw [this]
  simp only [MapSt.rot, List.any_append, Bool.or_comm]

theorem MapSt.phi_eq (s : MapSt α) : s.phi = s.ws.length * s.mu + s.dist := rfl

theorem MapSt.Move.mu_cases (m : s.Move a s') :
    s'.mu + 1 = s.mu ∨ (s' = s ∧ ¬ enabled s a) ∨
      (s' = s.passed ∧ a = 0 ∧ s.todo = [] ∧ ∀ w, s.ws[s.cursor]? = some w → w.resQ = []) := by
  cases m with
  | stay h => exact .inr (.inl ⟨rfl, h⟩)
  | skip ht _ hr => exact .inr (.inr ⟨rfl, rfl, ht, hr⟩)
  | @submit r rest w ht hw =>
    have := sum_map_set Worker.weight s.ws _ w
      { w with jobQ := w.jobQ ++ [⟨s.next, r⟩], pending := w.pending ++ [s.next] } hw
    simp only [MapSt.mu, wsum, ht, Worker.weight, List.length_cons, List.length_append, List.length_nil] at this ⊢
    omega
  | @collect w r rq i pd _ _ hc hr hp =>
    have := sum_map_set Worker.weight s.ws _ w { w with resQ := rq, pending := pd } hc
    simp only [MapSt.mu, wsum, MapSt.passed, Worker.weight, hr, List.length_cons] at this ⊢
    omega
  | @work k w hk hb =>
    have h1 := sum_map_set Worker.weight s.ws k w w.step hk
    have h2 := Worker.step_weight w hb
    simp only [MapSt.mu, wsum]
    omega

theorem phi_passed (hcur : s.cursor < s.ws.length)
    (h : ∀ w, s.ws[s.cursor]? = some w → w.resQ = []) :
    s.passed.phi + (if s.ws.any Worker.ready = true then 1 else 0) = s.phi := by
  have hc : s.ws[s.cursor]? = some (s.ws[s.cursor]) := List.getElem?_eq_getElem hcur
  generalize s.ws[s.cursor] = a at hc
  have ha : a.ready = false := by simp [Worker.ready, h a hc]
  obtain ⟨h1, h2⟩ := rot_skip s a hc
  have hrot := firstReady_rotate a (s.ws.drop (s.cursor + 1) ++ s.ws.take s.cursor) ha
  have hany : (s.ws.drop (s.cursor + 1) ++ s.ws.take s.cursor).any Worker.ready = s.ws.any Worker.ready := by
    rw [← rot_any s, h1]
    simp [ha]
  rw [MapSt.phi_eq, MapSt.phi_eq, MapSt.dist, MapSt.dist, h2, h1]
  rw [hany] at hrot
  show s.ws.length * s.mu + _ + _ = _
  omega

theorem phi_move (h : MapReach js s) (m : s.Move a s') : s'.phi ≤ s.phi ∧ (enabled s a → s'.phi < s.phi) := by
  rcases m.mu_cases with hmu | ⟨rfl, hne⟩ | ⟨rfl, rfl, ht, hr⟩
  · -- one unit of `mu` is worth `P`, more than the cursor distance can grow
    have hd := dist_lt s' (m.cursor h.cur)
    have : s'.phi < s.phi := by
      rw [MapSt.phi_eq, MapSt.phi_eq]
      rw [m.length] at hd ⊢
      rw [← hmu, Nat.mul_succ]
      omega
    exact ⟨Nat.le_of_lt this, fun _ => this⟩
  · exact ⟨Nat.le_refl _, fun hen => absurd hen hne⟩
  · have hsk := phi_passed h.cur hr
    refine ⟨by omega, fun hen => ?_⟩
    rcases hen with hen | ⟨_, i, w, hiw, hr⟩
    · exact absurd ht hen
    · have : s.ws.any Worker.ready = true :=
        List.any_eq_true.mpr ⟨w, List.mem_of_getElem? hiw, by simp [Worker.ready, hr]⟩
      rw [if_pos this] at hsk
      omega

theorem phi_step (h : MapReach js s) (e : Nat) : (s.step e).phi ≤ s.phi ∧ (enabled s e → (s.step e).phi < s.phi) :=
  phi_move h (step_move h.toMapInv e)

theorem phi_run_le (h : MapReach js s) (evs : List Nat) : (s.run evs).phi ≤ s.phi :=
  (List.foldlRecOn (motive := fun t => MapReach js t ∧ t.phi ≤ s.phi) evs MapSt.step ⟨h, Nat.le_refl _⟩
    fun _ ht e _ => ⟨ht.1.step e, Nat.le_trans (phi_step ht.1 e).1 ht.2⟩).2

theorem phi_run_lt (h : MapReach js s) (hen : enabled s a) {r : List Nat} (hmem : a ∈ r) :
    (s.run r).phi < s.phi := by
  induction r generalizing s with
  | nil => cases hmem
  | cons b t ih =>
    by_cases hba : b = a
    · subst hba
      exact Nat.lt_of_le_of_lt (phi_run_le (h.step b) t) ((phi_step h b).2 hen)
    · have hmem' : a ∈ t := (List.mem_cons.mp hmem).resolve_left (Ne.symm hba)
      exact Nat.lt_of_lt_of_le (ih (h.step b) ((step_move h.toMapInv b).persists hen hba) hmem')
        (phi_step h b).1

theorem exists_pending_of_outstanding (ws : List (Worker α)) (h : 0 < outstanding ws) :
    ∃ (k : Nat) (w : Worker α), ws[k]? = some w ∧ w.pending ≠ [] := by
  obtain ⟨x, hx, hpos⟩ := List.sum_pos_iff_exists_pos_nat.mp h
  obtain ⟨w, hw, rfl⟩ := List.mem_map.mp hx
  obtain ⟨k, hk⟩ := List.getElem?_of_mem hw
  exact ⟨k, w, hk, fun e => by simp [e] at hpos⟩

theorem exists_enabled (hi : MapInv js s) (hf : s.finished = false) : ∃ a, a ≤ s.ws.length ∧ enabled s a := by
  cases ht : s.todo with
  | cons r rest => exact ⟨0, Nat.zero_le _, Or.inl (by rw [ht]; simp)⟩
  | nil =>
    have hc : s.count < s.target := by
      simp only [MapSt.finished, ht, List.isEmpty_nil, Bool.true_and, decide_eq_false_iff_not] at hf
      omega
    -- every position is submitted and one is unanswered: its worker has it queued or holds its result, or else
    -- the result is on the worker's result queue
    have hn : js.length ≤ s.next := List.drop_eq_nil_iff.mp (ht ▸ hi.todo).symm
    obtain ⟨k, w, hk, hp⟩ := exists_pending_of_outstanding s.ws (by have := hi.count; have := hi.target; omega)
    by_cases hb : w.hold ≠ none ∨ w.jobQ ≠ []
    · exact ⟨k + 1, lt_of_getElem?_some hk, w, hk, hb⟩
    · obtain ⟨h1, h2⟩ : w.hold = none ∧ w.jobQ = [] := by simpa only [not_or, Classical.not_not] using hb
      refine ⟨0, Nat.zero_le _, Or.inr ⟨hc, k, w, hk, fun hr => ?_⟩⟩
      have hpipe := hi.pipe _ _ hk
      simp only [Worker.pipe, hr, h1, h2, List.map_nil, List.nil_append, Option.toList_none] at hpipe
      exact hp (List.map_eq_nil_iff.mp hpipe.symm)

theorem finished_step (h : s.finished = true) (e : Nat) : (s.step e).finished = true := by
  simp only [MapSt.finished, Bool.and_eq_true, List.isEmpty_iff, decide_eq_true_eq] at h
  obtain ⟨ht, hc⟩ := h
  cases e with
  | zero =>
    have : s.step 0 = s := by
      show s.mainStep = s
      have : ¬ s.count < s.target := by omega
      simp [MapSt.mainStep, ht, this]
    rw [this]
    simp [MapSt.finished, ht, hc]
  | succ k =>
    show (s.workerStep k).finished = true
    unfold MapSt.workerStep
    split <;> simp [MapSt.finished, ht, hc]

theorem finished_run (h : s.finished = true) (evs : List Nat) : (s.run evs).finished = true :=
  List.foldlRecOn (motive := fun t : MapSt α => t.finished = true) evs MapSt.step h fun _ h e _ => finished_step h e

theorem fair_round_decreases (h : MapReach js s)
    (hf : s.finished = false) (r : List Nat) (hr : ∀ a ∈ List.range (s.ws.length + 1), a ∈ r) :
    (s.run r).phi < s.phi := by
  obtain ⟨a, ha, hen⟩ := exists_enabled h.toMapInv hf
  exact phi_run_lt h hen (hr a (List.mem_range.mpr (by omega)))

theorem fair_rounds_finish (P : Nat) (n : Nat) : ∀ (s : MapSt α) (evs : List Nat),
    MapReach js s → s.ws.length = P → n ≤ fairRounds P evs →
    (s.run evs).finished = true ∨ (s.run evs).phi + n ≤ s.phi := by
  induction n with
  | zero =>
    intro s evs h _ _
    exact Or.inr (phi_run_le h evs)
  | succ n ih =>
    intro s evs h hP hn
    obtain ⟨r, rest, he, hall, hrest⟩ := fairScan_split P evs _ n hn
    cases hf : s.finished with
    | true => exact Or.inl (finished_run hf evs)
    | false =>
      have hdec := fair_round_decreases h hf r (by rw [hP]; exact hall)
      rw [he, MapSt.run_append]
      rcases ih (s.run r) rest (h.run r) (by rw [h.run_length, hP]) hrest with h' | h'
      · exact Or.inl h'
      · exact Or.inr (by omega)

/-- `mu` counts four queue interactions for every input not yet submitted (job put, job taken, result put, result
collected) and nothing for a quiescent pool. -/
theorem phi_init (ws : List (Worker α)) (js : List (Res α)) (hq : Quiescent ws) :
    (initMap ws js).phi = 4 * js.length * ws.length := by
  have hrot : (initMap ws js).rot = (initMap ws js).ws := by simp [MapSt.rot, initMap]
  have h1 : wsum (initMap ws js).ws = 0 := sum_map_eq_zero fun w hw => by
    obtain ⟨g1, g2, g3, _⟩ := initMap_ws js hq w hw
    simp [Worker.weight, g1, g2, g3]
  have h2 : (initMap ws js).ws.any Worker.ready = false :=
    List.any_eq_false.mpr fun w hw => by simp [Worker.ready, (initMap_ws js hq w hw).2.2.1]
  rw [MapSt.phi_eq, MapSt.dist, hrot, firstReady_eq_zero _ h2, MapSt.mu, h1]
  simp only [initMap, List.length_map, Nat.add_zero]
  exact Nat.mul_comm _ _

/-- Some finite continuation strictly decreases the work left while the caller has not finished: serve an enabled
actor; its turn is a queue interaction, or else the caller has passed an empty result queue on its way to a
non-empty one and the variant is smaller. -/
theorem exists_decrease (h : MapReach js s) (hf : s.finished = false) : ∃ evs, (s.run evs).mu < s.mu := by
  induction hn : s.phi using Nat.strongRecOn generalizing s with
  | ind n ih =>
    obtain ⟨a, _, hen⟩ := exists_enabled h.toMapInv hf
    have hphi := (phi_step h a).2 hen
    rcases (step_move h.toMapInv a).mu_cases with hmu | ⟨_, hne⟩ | ⟨hs, _, _, _⟩
    · exact ⟨[a], Nat.lt_of_succ_le (Nat.le_of_eq hmu)⟩
    · exact absurd hen hne
    · obtain ⟨evs, he⟩ := ih _ (hn ▸ hphi) (h.step a) (by rw [hs]; exact hf) rfl
      refine ⟨a :: evs, ?_⟩
      rw [hs] at he
      show ((s.step a).run evs).mu < s.mu
      rw [hs]
      exact he

theorem can_finish (h : MapReach js s) : ∃ evs, (s.run evs).finished = true := by
  induction hn : s.mu using Nat.strongRecOn generalizing s with
  | ind n ih =>
    cases hf : s.finished with
    | true => exact ⟨[], hf⟩
    | false =>
      obtain ⟨evs, he⟩ := exists_decrease h hf
      obtain ⟨evs', h'⟩ := ih _ (hn ▸ he) (h.run evs) rfl
      exact ⟨evs ++ evs', by rw [MapSt.run_append]; exact h'⟩

end AF.ParEval
