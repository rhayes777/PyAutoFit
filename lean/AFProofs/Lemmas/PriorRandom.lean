import AFProofs.Lemmas.Prior

/-!
For the random-draw theorems of `AFProofs/C02.lean`: the unit value `Prior.random` maps lies between the unit
limits; a unit value strictly inside the unit interval maps inside the limits of a uniform / log-uniform prior.
-/

open Lean Grind

namespace AF.Prior

section Field
variable {K : Type} [Field K] [LE K] [LT K] [Std.IsLinearOrder K] [Std.LawfulOrderLT K] [OrderedRing K]
  [DecidableLE K] [DecidableLT K]
set_option linter.unusedSectionVars false

theorem convex_between (x y r : K) (hxy : x ≤ y) (hr0 : 0 ≤ r) (hr1 : r ≤ 1) :
    x ≤ x + (y - x) * r ∧ x + (y - x) * r ≤ y := by
  have hd : 0 ≤ y - x := OrderedAdd.sub_nonneg_iff.mpr hxy
  have h1 := mul_le_mul_of_nonneg_left r 1 (y - x) hd hr1
  have h2 := mul_le_mul_of_nonneg_left 0 r (y - x) hd hr0
  grind

/-- `random.uniform(max(lo, a), min(hi, b))`, where the requested unit interval `[lo, hi]` meets `[a, b]` -/
theorem randomUnit_between (lo hi a b r : K) (hab : a ≤ b) (hlo : lo ≤ b) (hhi : a ≤ hi) (hlohi : lo ≤ hi)
    (hr0 : 0 ≤ r) (hr1 : r ≤ 1) : a ≤ randomUnit lo hi a b r ∧ randomUnit lo hi a b r ≤ b := by
  simp only [randomUnit]
  generalize hx : (if a > lo then a else lo) = x
  generalize hy : (if b < hi then b else hi) = y
  have hax : a ≤ x := by
    subst hx
    split
    · exact Std.le_refl a
    · exact Std.not_lt.mp ‹_›
  have hyb : y ≤ b := by
    subst hy
    split
    · exact Std.le_refl b
    · exact Std.not_lt.mp ‹_›
  have hxy : x ≤ y := by
    subst hx hy
    split <;> split <;> assumption
  have hw := convex_between x y r hxy hr0 hr1
  exact ⟨Std.le_trans hax hw.1, Std.le_trans hw.2 hyb⟩

theorem log10_mono_of_lawful (S : Special K) (h : Lawful S) (x y : K) (hx : 0 < x) (hxy : x ≤ y) :
    S.log10 x ≤ S.log10 y :=
  mono_of_inverse S.pow10 S.log10 (0 < ·) h.pow10_mono h.pow10_log10 x y hx (Std.lt_of_lt_of_le hx hxy) hxy

theorem log_mono_of_lawful (S : Special K) (h : Lawful S) (x y : K) (hx : 0 < x) (hxy : x ≤ y) :
    S.log x ≤ S.log y :=
  mono_of_inverse S.exp S.log (0 < ·) h.exp_mono h.exp_log x y hx (Std.lt_of_lt_of_le hx hxy) hxy

theorem log10_strict_of_lawful (S : Special K) (h : Lawful S) (x y : K) (hx : 0 < x) (hxy : x < y) :
    S.log10 x < S.log10 y :=
  strictMono_of_inverse S.pow10 S.log10 (0 < ·) h.pow10_mono h.pow10_log10 x y hx (Std.lt_trans hx hxy) hxy

theorem phi_phiInv_clampUnit_ends (S : Special K) (h : Lawful S) :
    S.phi (S.phiInv (clampUnit S 0)) = S.eps ∧ S.phi (S.phiInv (clampUnit S 1)) = 1 - S.eps := by
  have p := h.eps_pos
  have q := h.eps_lt_one
  rw [clampUnit_zero S h, clampUnit_one S h, h.phi_phiInv _ p q,
    h.phi_phiInv _ (OrderedAdd.sub_pos_iff.mpr q) (by grind)]
  exact ⟨rfl, rfl⟩

theorem unitLimits_logUniform (S : Special K) (h : Lawful S) (L U m s : K) (hL : 0 < L) (hLU : L < U)
    (hlog : S.log10 (U / L) = S.log10 U - S.log10 L) :
    unitValueFor S ⟨.logUniform, L, U, m, s⟩ L = S.eps ∧
    unitValueFor S ⟨.logUniform, L, U, m, s⟩ U = 1 - S.eps := by
  have hs := logScale_pos S h L U hL hLU
  have e0 : (S.log10 L - S.log10 L) / S.log10 (U / L) = 0 := by grind
  have e1 : (S.log10 U - S.log10 L) / S.log10 (U / L) = 1 := by rw [← hlog]; grind
  rw [unit_logUniform, unit_logUniform, e0, e1]
  exact phi_phiInv_clampUnit_ends S h

theorem uniform_raw_in_limits (S : Special K) (h : Lawful S) (L U m s u : K) (hLU : L < U)
    (h0 : 0 < u) (h1 : u < 1) :
    L ≤ rawValueFor S ⟨.uniform, L, U, m, s⟩ u ∧ rawValueFor S ⟨.uniform, L, U, m, s⟩ u ≤ U := by
  have hm := shift_mem u (U - L) L (OrderedAdd.sub_nonneg_iff.mpr (Std.le_of_lt hLU)) (Std.le_of_lt h0)
    (Std.le_of_lt h1)
  rw [AddCommGroup.sub_add_cancel] at hm
  rw [raw_uniform, h.phi_phiInv u h0 h1]
  exact hm

theorem logUniform_raw_in_limits (S : Special K) (h : Lawful S) (L U m s u : K) (hL : 0 < L) (hLU : L < U)
    (hlog : S.log10 (U / L) = S.log10 U - S.log10 L) (h0 : 0 < u) (h1 : u < 1) :
    L ≤ rawValueFor S ⟨.logUniform, L, U, m, s⟩ u ∧ rawValueFor S ⟨.logUniform, L, U, m, s⟩ u ≤ U := by
  have hm := shift_mem u (S.log10 (U / L)) (S.log10 L) (Std.le_of_lt (logScale_pos S h L U hL hLU))
    (Std.le_of_lt h0) (Std.le_of_lt h1)
  rw [hlog, AddCommGroup.sub_add_cancel, ← hlog] at hm
  have lo := h.pow10_mono _ _ hm.1
  have hi := h.pow10_mono _ _ hm.2
  rw [h.pow10_log10 L hL] at lo
  rw [h.pow10_log10 U (Std.lt_trans hL hLU)] at hi
  rw [raw_logUniform, h.phi_phiInv u h0 h1]
  exact ⟨lo, hi⟩

end Field

end AF.Prior
