import AFModel.Interp
import AFProofs.Lemmas.ListFacts

/-! Helper lemmas for C20 (`AF.Interp`), in this order: functional updates along paths and `applyAll`, the walk,
the value map, sorted keys, least squares, what `getitem` answers when the query is not an exact hit. Core Lean only. -/

namespace AF.Interp

theorem lookupAttr_setAttr_same : ∀ (attrs : List (String × Val)) (k : String) (c : Val),
    (lookupAttr attrs k).isSome → lookupAttr (setAttr attrs k c) k = some c
  | [], k, c, h => nomatch h
  | (k', x) :: rest, k, c, h => by
    unfold lookupAttr at h
    unfold setAttr
    split
    · next hk => rw [lookupAttr, if_pos hk]
    · next hk =>
      rw [if_neg hk] at h
      rw [lookupAttr, if_neg hk, lookupAttr_setAttr_same rest k c h]

theorem lookupAttr_setAttr_other : ∀ (attrs : List (String × Val)) (k k' : String) (c : Val),
    k ≠ k' → lookupAttr (setAttr attrs k c) k' = lookupAttr attrs k'
  | [], _, _, _, _ => rfl
  | (k0, x) :: rest, k, k', c, h => by
    unfold setAttr
    split
    · next hk => rw [lookupAttr, lookupAttr, if_neg (hk ▸ h), if_neg (hk ▸ h)]
    · rw [lookupAttr, lookupAttr, lookupAttr_setAttr_other rest k k' c h]

theorem setChild_of_child {x : Val} {k : Key} {ch : Val} (c : Val) (h : child x k = some ch) :
    ∃ x', setChild x k c = some x' := by
  unfold child at h
  unfold setChild
  split at h
  · exact ⟨_, if_pos (h ▸ rfl)⟩
  · exact ⟨_, if_pos (List.getElem?_eq_some_iff.mp h).1⟩
  · cases h

theorem child_setChild_same {x x' : Val} {k : Key} {c : Val} (h : setChild x k c = some x') :
    child x' k = some c := by
  unfold setChild at h
  split at h
  · split at h
    · next hs => cases h; exact lookupAttr_setAttr_same _ _ c hs
    · cases h
  · split at h
    · next hn => cases h; simp [child, hn]
    · cases h
  · cases h

theorem child_setChild_other {x x' : Val} {k k' : Key} {c : Val} (h : setChild x k c = some x')
    (hk : k ≠ k') : child x' k' = child x k' := by
  unfold setChild at h
  split at h
  · next _ _ _ _ attrs name =>
    split at h
    · cases h
      cases k' with
      | s name' => exact lookupAttr_setAttr_other attrs name name' _ (fun e => hk (congrArg Key.s e))
      | i n => rfl
    · cases h
  · next _ _ _ items n =>
    split at h
    · cases h
      cases k' with
      | s name' => rfl
      | i m => exact List.getElem?_set_ne (fun e => hk (congrArg Key.i e))
    · cases h
  · cases h

theorem setPath_of_get (c : Val) : ∀ {p : IPath} {x y : Val}, getPath x p = some y →
    ∃ x', setPath x p c = some x'
  | [], _, _, _ => ⟨c, rfl⟩
  | k :: ks, x, y, h => by
    unfold getPath at h
    unfold setPath
    split at h
    · next ch hc =>
      obtain ⟨ch', hs⟩ := setPath_of_get c h
      rw [hs]
      exact setChild_of_child ch' hc
    · cases h

theorem get_of_set {c : Val} : ∀ {p : IPath} {x x' : Val}, setPath x p c = some x' → getPath x' p = some c
  | [], _, _, h => by cases h; rfl
  | k :: ks, x, x', h => by
    unfold setPath at h
    split at h
    · next ch _ =>
      split at h
      · next ch' hs =>
        rw [getPath, child_setChild_same h]
        exact get_of_set hs
      · cases h
    · cases h

/-- a value that paths cannot enter (number, opaque, tuple, dict, list-built instance) -/
def Atomic (y : Val) : Prop := ∀ k, child y k = none

theorem atomic_num (a : Rat) : Atomic (.num a) := fun _ => rfl
theorem atomic_int (n : Int) : Atomic (.int n) := fun _ => rfl

theorem getPath_cons_of_atomic {y : Val} (h : Atomic y) (k : Key) (ks : IPath) : getPath y (k :: ks) = none := by
  rw [getPath, h k]

theorem get_set_other {c yp yq : Val} : ∀ {p q : IPath} {x x' : Val},
    getPath x p = some yp → Atomic yp → getPath x q = some yq → Atomic yq → p ≠ q →
    setPath x p c = some x' → getPath x' q = some yq
  | [], q, x, x' => by
    intro hp hap hq _ hne _
    cases hp
    cases q with
    | nil => exact absurd rfl hne
    | cons k ks =>
      rw [getPath_cons_of_atomic hap] at hq
      cases hq
  | k :: ks, q, x, x' => by
    intro hp hap hq haq hne hs
    cases q with
    | nil =>
      cases hq
      rw [getPath_cons_of_atomic haq] at hp
      cases hp
    | cons k' ks' =>
      unfold setPath at hs
      split at hs
      · next ch hc =>
        split at hs
        · next ch' hs' =>
          rw [getPath, hc] at hp
          by_cases hk : k = k'
          · subst hk
            rw [getPath, hc] at hq
            rw [getPath, child_setChild_same hs]
            exact get_set_other hp hap hq haq (fun e => hne (e ▸ rfl)) hs'
          · rw [getPath, child_setChild_other hs hk]
            exact hq
        · cases hs
      · cases hs

def AtomicAt (x : Val) (p : IPath) : Prop := ∃ y, getPath x p = some y ∧ Atomic y

theorem atomicAt_of_numOf {x : Val} {p : IPath} {t : Rat} (h : numOf (getPath x p) = .ok t) : AtomicAt x p := by
  unfold numOf at h
  split at h
  · next a ha => exact ⟨_, ha, atomic_num a⟩
  · next n hn => exact ⟨_, hn, atomic_int n⟩
  · cases h
  · cases h

theorem atomicAt_set {x x' : Val} {p q : IPath} {r : Rat} (hp : AtomicAt x p) (hq : AtomicAt x q)
    (hs : setPath x p (.num r) = some x') : AtomicAt x' q := by
  obtain ⟨yp, hyp, hap⟩ := hp
  obtain ⟨yq, hyq, haq⟩ := hq
  by_cases h : p = q
  · exact ⟨_, h ▸ get_of_set hs, atomic_num r⟩
  · exact ⟨yq, get_set_other hyp hap hyq haq h hs, haq⟩

theorem applyAll_spec : ∀ (vals : List (IPath × Rat)) (x : Val),
    (∀ q ∈ vals.map (·.1), AtomicAt x q) →
    ∃ x', applyAll x vals = .ok x' ∧
      (∀ q, AtomicAt x q → AtomicAt x' q) ∧
      (∀ q ∈ vals.map (·.1), ∃ e ∈ vals, e.1 = q ∧ getPath x' q = some (.num e.2)) ∧
      (∀ q y, getPath x q = some y → Atomic y → q ∉ vals.map (·.1) → getPath x' q = some y)
  | [], x => fun _ => ⟨x, rfl, fun _ h => h, fun _ hq => (nomatch hq), fun _ _ h _ _ => h⟩
  | (p, r) :: rest, x => by
    intro hat
    have hp := hat p List.mem_cons_self
    have ⟨yp, hyp, hap⟩ := hp
    obtain ⟨x1, hs⟩ := setPath_of_get (.num r) hyp
    obtain ⟨x', hx', hkeep, hin, hout⟩ := applyAll_spec rest x1 fun q hq =>
      atomicAt_set hp (hat q (List.mem_cons_of_mem _ hq)) hs
    refine ⟨x', by rw [applyAll, hs]; exact hx', fun q hq => hkeep q (atomicAt_set hp hq hs), ?_, ?_⟩
    · intro q hq
      by_cases hlater : q ∈ rest.map (·.1)
      · have ⟨e, he, h⟩ := hin q hlater
        exact ⟨e, List.mem_cons_of_mem _ he, h⟩
      · -- no later entry overwrites the head's
        cases (List.mem_cons.mp hq).resolve_right hlater
        exact ⟨(p, r), List.mem_cons_self, rfl, hout p _ (get_of_set hs) (atomic_num r) hlater⟩
    · intro q y hq hay hno
      exact hout q y (get_set_other hyp hap hq hay (List.ne_of_not_mem_cons hno).symm hs) hay
        (List.not_mem_of_not_mem_cons hno)

theorem mem_floatPathsAttrs_of_lookup : ∀ (attrs : List (String × Val)) (k : String) (x : Val) (p : IPath),
    lookupAttr attrs k = some x → p ∈ floatPaths x → (Key.s k :: p) ∈ floatPathsAttrs attrs
  | [], _, _, _ => fun h _ => nomatch h
  | (k', y) :: rest, k, x, p => by
    intro h hp
    unfold lookupAttr at h
    split at h
    · next hk =>
      cases h
      exact List.mem_append_left _ (List.mem_map.mpr ⟨p, hp, hk ▸ rfl⟩)
    · exact List.mem_append_right _ (mem_floatPathsAttrs_of_lookup rest k x p h hp)

theorem mem_floatPathsItems_of_get : ∀ (items : List Val) (i n : Nat) (x : Val) (p : IPath),
    items[n]? = some x → p ∈ floatPaths x → (Key.i (i + n) :: p) ∈ floatPathsItems i items
  | [], _, _, _, _ => fun h _ => nomatch h
  | y :: rest, i, 0, x, p => by
    intro h hp
    cases h
    exact List.mem_append_left _ (List.mem_map.mpr ⟨p, hp, rfl⟩)
  | y :: rest, i, n + 1, x, p => by
    intro h hp
    have := mem_floatPathsItems_of_get rest (i + 1) n x p h hp
    rw [Nat.add_right_comm] at this
    exact List.mem_append_right _ this

theorem walk_complete {a : Rat} : ∀ {p : IPath} {x : Val}, getPath x p = some (.num a) → p ∈ floatPaths x
  | [], x => by
    intro h
    cases h
    exact List.mem_singleton.mpr rfl
  | k :: ks, x => by
    intro h
    unfold getPath at h
    split at h
    · next ch hc =>
      have ih := walk_complete h
      unfold child at hc
      split at hc
      · exact mem_floatPathsAttrs_of_lookup _ _ ch ks hc ih
      · have := mem_floatPathsItems_of_get _ 0 _ ch ks hc ih
        rwa [Nat.zero_add] at this
      · cases hc
    · cases h

theorem interpValues_spec {f : List Rat → List Rat → Rat → Except Err Rat} {ps : List (Rat × Val)}
    {xs : List Rat} {v : Rat} : ∀ {paths : List IPath} {vals : List (IPath × Rat)},
    interpValues f ps xs v paths = .ok vals →
    vals.map (·.1) = paths ∧
      ∀ e ∈ vals, ∃ ys, seriesAt ps e.1 xs = .ok ys ∧ f xs ys v = .ok e.2
  | [], vals => by
    intro h
    cases h
    exact ⟨rfl, fun _ he => nomatch he⟩
  | p :: rest, vals => by
    intro h
    unfold interpValues at h
    split at h
    · cases h
    · next ys hs =>
      split at h
      · next r out hf hr =>
        cases h
        obtain ⟨hm, hall⟩ := interpValues_spec hr
        exact ⟨congrArg (p :: ·) hm,
          fun e he => (List.mem_cons.mp he).elim (fun e0 => e0 ▸ ⟨ys, hs, hf⟩) (hall e)⟩
      · cases h
      · cases h

theorem pairs_spec {tp : IPath} : ∀ {insts : List Val} {ps : List (Rat × Val)},
    pairs tp insts = .ok ps → ps.map (·.2) = insts ∧ ∀ e ∈ ps, tOf tp e.2 = .ok e.1
  | [], ps => by
    intro h
    cases h
    exact ⟨rfl, fun _ he => nomatch he⟩
  | i :: rest, ps => by
    intro h
    unfold pairs at h
    split at h
    · next t ps' ht hr =>
      cases h
      obtain ⟨hm, hall⟩ := pairs_spec hr
      exact ⟨congrArg (i :: ·) hm, fun e he => (List.mem_cons.mp he).elim (· ▸ ht) (hall e)⟩
    · cases h
    · cases h

theorem mem_pairs_iff {tp : IPath} {insts : List Val} {ps : List (Rat × Val)}
    (h : pairs tp insts = .ok ps) {k : Rat} {i : Val} :
    (k, i) ∈ ps ↔ i ∈ insts ∧ tOf tp i = .ok k := by
  obtain ⟨hmap, hall⟩ := pairs_spec h
  constructor
  · intro hm
    exact ⟨hmap ▸ List.mem_map.mpr ⟨_, hm, rfl⟩, hall _ hm⟩
  · rintro ⟨hi, ht⟩
    rw [← hmap] at hi
    obtain ⟨e, he, rfl⟩ := List.mem_map.mp hi
    cases (hall e he).symm.trans ht
    exact he

theorem lookupLast_mem {k : Rat} {i : Val} : ∀ {ps : List (Rat × Val)}, lookupLast k ps = some i → (k, i) ∈ ps
  | [], h => nomatch h
  | (k', j) :: rest, h => by
    unfold lookupLast at h
    split at h
    · next hr =>
      cases h
      exact List.mem_cons_of_mem _ (lookupLast_mem hr)
    · split at h
      · next hk =>
        cases h
        rw [hk]
        exact List.mem_cons_self
      · cases h

theorem lookupLast_none {k : Rat} : ∀ {ps : List (Rat × Val)}, lookupLast k ps = none → ∀ e ∈ ps, e.1 ≠ k
  | [], _, e, he => nomatch he
  | (k', j) :: rest, h, e, he => by
    unfold lookupLast at h
    split at h
    · cases h
    · next hr =>
      rcases List.mem_cons.mp he with rfl | he
      · intro hk
        rw [if_pos hk] at h
        cases h
      · exact lookupLast_none hr e he

theorem lookupLast_isSome_of_key {ps : List (Rat × Val)} {k : Rat} (h : k ∈ ps.map (·.1)) :
    ∃ i, lookupLast k ps = some i := by
  cases hl : lookupLast k ps with
  | some i => exact ⟨i, rfl⟩
  | none =>
    obtain ⟨e, he, hk⟩ := List.mem_map.mp h
    exact absurd hk (lookupLast_none hl e he)

theorem lookupLast_of_mem_nodup {k : Rat} {i : Val} : ∀ {ps : List (Rat × Val)},
    (ps.map (·.1)).Nodup → (k, i) ∈ ps → lookupLast k ps = some i
  | [] => fun _ h => nomatch h
  | (k', j) :: rest => by
    intro hnd h
    rw [List.map_cons, List.nodup_cons] at hnd
    unfold lookupLast
    rcases List.mem_cons.mp h with heq | h
    · obtain ⟨rfl, rfl⟩ := Prod.mk.inj heq
      cases hr : lookupLast k rest with
      | none => rw [if_pos rfl]
      | some j' => exact absurd (List.mem_map.mpr ⟨(k, j'), lookupLast_mem hr, rfl⟩) hnd.1
    · rw [lookupLast_of_mem_nodup hnd.2 h]

theorem lookupLast_congr {ps ps' : List (Rat × Val)} (hnd : (ps.map (·.1)).Nodup)
    (h : ∀ e, e ∈ ps ↔ e ∈ ps') (k : Rat) : lookupLast k ps = lookupLast k ps' := by
  cases h' : lookupLast k ps' with
  | some j => exact lookupLast_of_mem_nodup hnd ((h _).mpr (lookupLast_mem h'))
  | none =>
    cases hl : lookupLast k ps with
    | none => rfl
    | some i => exact absurd rfl (lookupLast_none h' _ ((h _).mp (lookupLast_mem hl)))

theorem mem_insertKey {a x : Rat} : ∀ {l : List Rat}, x ∈ insertKey a l ↔ x = a ∨ x ∈ l
  | [] => by simp [insertKey]
  | b :: bs => by
    unfold insertKey
    split
    · exact List.mem_cons
    · split
      · rename_i h
        rw [h, List.mem_cons, ← or_assoc, or_self]
      · rw [List.mem_cons, mem_insertKey (l := bs), List.mem_cons, or_left_comm]

theorem sorted_insertKey {a : Rat} : ∀ {l : List Rat}, l.Pairwise (· < ·) → (insertKey a l).Pairwise (· < ·)
  | [], _ => List.pairwise_singleton _ a
  | b :: bs, h => by
    have hb := List.pairwise_cons.mp h
    unfold insertKey
    split
    · rename_i hab
      refine List.pairwise_cons.mpr ⟨fun c hc => ?_, h⟩
      rcases List.mem_cons.mp hc with rfl | hc
      · exact hab
      · exact Std.lt_trans hab (hb.1 c hc)
    · split
      · exact h
      · rename_i h1 h2
        refine List.pairwise_cons.mpr ⟨fun c hc => ?_, sorted_insertKey hb.2⟩
        rcases mem_insertKey.mp hc with rfl | hc
        · exact Rat.lt_of_le_of_ne (Rat.not_lt.mp h1) (Ne.symm h2)
        · exact hb.1 c hc

theorem sorted_sortedKeys : ∀ (l : List Rat), (sortedKeys l).Pairwise (· < ·)
  | [] => List.Pairwise.nil
  | _ :: l => sorted_insertKey (sorted_sortedKeys l)

theorem mem_sortedKeys {x : Rat} : ∀ {l : List Rat}, x ∈ sortedKeys l ↔ x ∈ l
  | [] => Iff.rfl
  | a :: l => by
    rw [List.mem_cons, ← mem_sortedKeys (l := l)]
    exact mem_insertKey

theorem sortedKeys_congr {l l' : List Rat} (h : ∀ a, a ∈ l ↔ a ∈ l') : sortedKeys l = sortedKeys l' :=
  eq_of_sorted_of_mem_iff (fun _ _ hab => Rat.not_lt.mpr (Rat.le_of_lt hab)) (sorted_sortedKeys l) (sorted_sortedKeys l')
    (fun a => mem_sortedKeys.trans ((h a).trans mem_sortedKeys.symm))

/-- with pairwise distinct abscissae no key is dropped: the sorted keys are a rearrangement -/
theorem length_sortedKeys_of_nodup : ∀ (l : List Rat), l.Nodup → (sortedKeys l).length = l.length :=
  fun l h => ((List.perm_ext_iff_of_nodup ((sorted_sortedKeys l).imp Rat.ne_of_lt) h).mpr
    (fun _ => mem_sortedKeys)).length_eq

theorem sum_nil : sum [] = 0 := rfl
theorem dot_nil : dot [] [] = 0 := rfl
theorem sum_cons (a : Rat) (l : List Rat) : sum (a :: l) = a + sum l := rfl
theorem dot_cons (a b : Rat) (l m : List Rat) : dot (a :: l) (b :: m) = a * b + dot l m := rfl
theorem natCast_length_cons (a : Rat) (l : List Rat) : ((a :: l).length : Rat) = (l.length : Rat) + 1 :=
  Rat.natCast_add l.length 1

theorem sq_nonneg (a : Rat) : 0 ≤ a * a := by
  rcases Rat.nonneg_total a with h | h
  · exact Rat.mul_nonneg h h
  · have := Rat.mul_nonneg h h
    rwa [Rat.neg_mul, Rat.mul_neg, Rat.neg_neg] at this

theorem sq_sub_pos {x z : Rat} (h : z ≠ x) : 0 < (x - z) * (x - z) := by
  refine Rat.lt_of_le_of_ne (sq_nonneg _) (fun e => h ?_)
  have e0 : x - z = 0 := (Rat.mul_eq_zero.mp e.symm).elim id id
  rw [← Rat.sub_add_cancel (a := x) (b := z), e0, Rat.zero_add]

theorem add_pos_of_pos_of_nonneg {a b : Rat} (ha : 0 < a) (hb : 0 ≤ b) : 0 < a + b := by
  have : a + 0 ≤ a + b := Rat.add_le_add_left.mpr hb
  rw [Rat.add_zero] at this
  exact Std.lt_of_lt_of_le ha this

def sumSq (x : Rat) : List Rat → Rat
  | [] => 0
  | y :: ys => (x - y) * (x - y) + sumSq x ys

theorem sumSq_nil (x : Rat) : sumSq x [] = 0 := rfl
theorem sumSq_cons (x y : Rat) (ys : List Rat) : sumSq x (y :: ys) = (x - y) * (x - y) + sumSq x ys := rfl

theorem sumSq_nonneg (x : Rat) : ∀ ys, 0 ≤ sumSq x ys
  | [] => Rat.le_refl
  | y :: ys => Rat.add_nonneg (sq_nonneg (x - y)) (sumSq_nonneg x ys)

theorem sumSq_pos (x : Rat) : ∀ ys, (∃ y ∈ ys, y ≠ x) → 0 < sumSq x ys
  | [], h => by simp at h
  | y :: ys, ⟨z, hz, hne⟩ => by
    rcases List.mem_cons.mp hz with rfl | hz
    · exact add_pos_of_pos_of_nonneg (sq_sub_pos hne) (sumSq_nonneg x ys)
    · rw [sumSq_cons, Rat.add_comm]
      exact add_pos_of_pos_of_nonneg (sumSq_pos x ys ⟨z, hz, hne⟩) (sq_nonneg _)

theorem sumSq_eq (x : Rat) : ∀ l : List Rat,
    sumSq x l = (l.length : Rat) * (x * x) - 2 * x * sum l + dot l l
  | [] => by simp [sumSq_nil, sum_nil, dot_nil, Rat.sub_self, Rat.add_zero]
  | y :: ys => by
    rw [sumSq_cons, sumSq_eq x ys, natCast_length_cons, sum_cons, dot_cons]
    -- a polynomial identity in plain atoms: with the cast and the sums in place it is dearer to check
    generalize (ys.length : Rat) = n, dot ys ys = Q, sum ys = S
    grind

/-- `n·Σx² − (Σx)² = Σ_{i<j} (x_i − x_j)²`, one element at a time -/
theorem denom_cons (x : Rat) (xs : List Rat) : denom (x :: xs) = denom xs + sumSq x xs := by
  rw [denom, denom, natCast_length_cons, sum_cons, dot_cons, sumSq_eq]
  generalize (xs.length : Rat) = n, dot xs xs = Q, sum xs = S
  grind

theorem denom_nonneg : ∀ xs, 0 ≤ denom xs
  | [] => by decide +kernel
  | x :: xs => by
    rw [denom_cons]
    exact Rat.add_nonneg (denom_nonneg xs) (sumSq_nonneg x xs)

theorem denom_pos : ∀ (xs : List Rat), (∃ x ∈ xs, ∃ y ∈ xs, x ≠ y) → 0 < denom xs
  | [], ⟨_, hx, _⟩ => by cases hx
  | z :: rest, ⟨x, hx, y, hy, hne⟩ => by
    rw [denom_cons, Rat.add_comm]
    refine add_pos_of_pos_of_nonneg (sumSq_pos z rest ?_) (denom_nonneg rest)
    -- one of `x`, `y` differs from `z`, and that one is in `rest`
    by_cases hxz : x = z
    · have hyz : y ≠ z := fun e => hne (hxz.trans e.symm)
      exact ⟨y, (List.mem_cons.mp hy).resolve_left hyz, hyz⟩
    · exact ⟨x, (List.mem_cons.mp hx).resolve_left hxz, hxz⟩

theorem sum_linear (a b : Rat) : ∀ xs : List Rat,
    sum (xs.map (fun x => a * x + b)) = a * sum xs + (xs.length : Rat) * b
  | [] => by simp [sum_nil, Rat.add_zero]
  | x :: xs => by
    rw [List.map_cons, sum_cons, sum_linear a b xs, natCast_length_cons, sum_cons]
    grind

theorem dot_linear (a b : Rat) : ∀ xs : List Rat,
    dot xs (xs.map (fun x => a * x + b)) = a * dot xs xs + b * sum xs
  | [] => by simp [sum_nil, dot_nil, Rat.add_zero]
  | x :: xs => by
    rw [List.map_cons, dot_cons, dot_linear a b xs, dot_cons, sum_cons]
    grind

theorem lsq_linear (a b v : Rat) (xs : List Rat) (hd : denom xs ≠ 0) :
    lsq xs (xs.map (fun x => a * x + b)) v = .ok (a * v + b) := by
  have hn : (xs.length : Rat) ≠ 0 := by
    cases xs with
    | nil => exact absurd (by decide +kernel) hd
    | cons x xs => exact Rat.ne_of_gt (Rat.natCast_pos.mpr (Nat.succ_pos _))
  have hslope : slope xs (xs.map (fun x => a * x + b)) = a := by
    rw [slope, sum_linear, dot_linear]
    rw [denom] at hd ⊢
    -- the numerator is `a * (n * Q - S * S)`
    generalize (xs.length : Rat) = n, dot xs xs = Q, sum xs = S at hd ⊢
    grind
  rw [lsq, if_neg hd, intercept, hslope, sum_linear, Rat.add_comm (a * sum xs), Rat.add_sub_cancel,
    Rat.mul_comm (xs.length : Rat), Rat.mul_div_cancel hn]

theorem seriesAt_congr {ps ps' : List (Rat × Val)} (h : ∀ k, lookupLast k ps = lookupLast k ps')
    (p : IPath) : ∀ xs, seriesAt ps p xs = seriesAt ps' p xs
  | [] => rfl
  | x :: xs => by
    simp only [seriesAt, h x, seriesAt_congr h p xs]

theorem seriesAt_linear (ps : List (Rat × Val)) (p : IPath) (a b : Rat)
    (hlin : ∀ e ∈ ps, numOf (getPath e.2 p) = .ok (a * e.1 + b)) :
    ∀ xs, (∀ x ∈ xs, x ∈ ps.map (·.1)) → seriesAt ps p xs = .ok (xs.map (fun x => a * x + b))
  | [], _ => rfl
  | x :: xs, hk => by
    obtain ⟨i, hi⟩ := lookupLast_isSome_of_key (hk x List.mem_cons_self)
    have hm := lookupLast_mem hi
    have hv := hlin (x, i) hm
    have ih := seriesAt_linear ps p a b hlin xs (fun y hy => hk y (List.mem_cons_of_mem _ hy))
    simp only at hv
    simp [seriesAt, hi, hv, ih]

theorem getitem_hit (cfg : Cfg) (f) {insts : List Val} {tp : IPath} {v : Rat} {ps} {i : Val}
    (hps : pairs tp insts = .ok ps) (hl : lookupLast v ps = some i) :
    getitem cfg f insts tp v = .ok i := by
  simp [getitem, hps, hl]

theorem pairs_ok_of_getitem {cfg : Cfg} {f} {insts : List Val} {tp : IPath} {v : Rat} {r : Val}
    (h : getitem cfg f insts tp v = .ok r) : ∃ ps, pairs tp insts = .ok ps := by
  unfold getitem at h
  split at h
  · cases h
  · next ps hps => exact ⟨ps, hps⟩

theorem getitem_miss {cfg : Cfg} {f} {tmpl : Val} {rest : List Val} {tp : IPath} {v : Rat} {ps} {r : Val}
    (hps : pairs tp (tmpl :: rest) = .ok ps) (hl : lookupLast v ps = none)
    (h : getitem cfg f (tmpl :: rest) tp v = .ok r) :
    ∃ vals new, interpValues f ps (sortedKeys (ps.map (·.1))) v (floatPaths tmpl) = .ok vals ∧
      applyAll tmpl vals = .ok new ∧
      ((cfg.setsVariable = true ∧ setPath new tp (.num v) = some r) ∨
       (cfg.setsVariable = false ∧ r = new)) := by
  simp only [getitem, hps, hl] at h
  split at h
  · cases h
  · next vals hv =>
    split at h
    · cases h
    · next new ha =>
      refine ⟨vals, new, hv, ha, ?_⟩
      split at h
      · next hc =>
        split at h
        · next hs =>
          cases h
          exact Or.inl ⟨hc, hs⟩
        · cases h
      · next hc =>
        cases h
        exact Or.inr ⟨(Bool.not_eq_true _).mp hc, rfl⟩

def isNumAt (x : Val) (p : IPath) : Bool :=
  match getPath x p with
  | some (.num _) => true
  | _ => false

/-- every float the walk yields can be addressed by `getattr`/indexing: no float below a `dict`,
no attribute shadowed by an earlier one of the same name (decidable) -/
def Addressable (x : Val) : Prop := (floatPaths x).all (isNumAt x) = true

instance (x : Val) : Decidable (Addressable x) := by unfold Addressable; infer_instance

theorem Addressable.leaf {x : Val} (h : Addressable x) {p : IPath} (hp : p ∈ floatPaths x) :
    ∃ a, getPath x p = some (.num a) := by
  have := List.all_eq_true.mp h p hp
  unfold isNumAt at this
  split at this
  · next a ha => exact ⟨a, ha⟩
  · cases this

/-- The answer to a query that is not an exact hit, place by place: floats of the first instance are
interpolated, its other atomic places kept (the variable's own place aside when it is assigned at the end). -/
theorem miss_structure {cfg : Cfg} {f} {tmpl : Val} {rest : List Val} {tp : IPath} {v : Rat} {ps} {r : Val}
    (hps : pairs tp (tmpl :: rest) = .ok ps) (hl : lookupLast v ps = none) (hA : Addressable tmpl)
    (h : getitem cfg f (tmpl :: rest) tp v = .ok r) :
    (∀ p a, getPath tmpl p = some (.num a) → (p ≠ tp ∨ cfg.setsVariable = false) →
      ∃ ys val, seriesAt ps p (sortedKeys (ps.map (·.1))) = .ok ys ∧
        f (sortedKeys (ps.map (·.1))) ys v = .ok val ∧ getPath r p = some (.num val)) ∧
    (∀ q y, getPath tmpl q = some y → Atomic y → (∀ a, y ≠ .num a) →
      (q ≠ tp ∨ cfg.setsVariable = false) → getPath r q = some y) := by
  obtain ⟨vals, new, hv, ha, hfin⟩ := getitem_miss hps hl h
  obtain ⟨hmap, hvals⟩ := interpValues_spec hv
  obtain ⟨x', hx', hkeep, hin, hout⟩ :=
    applyAll_spec vals tmpl (hmap ▸ fun q hq => let ⟨a, h⟩ := hA.leaf hq; ⟨_, h, atomic_num a⟩)
  cases ha.symm.trans hx'
  -- the variable's place holds a number before the last step, so assigning it disturbs no other place
  have htp : AtomicAt new tp := by
    obtain ⟨hmap, hall⟩ := pairs_spec hps
    obtain ⟨e, he, hte⟩ := List.mem_map.mp (hmap ▸ List.mem_cons_self : tmpl ∈ ps.map (·.2))
    exact hkeep tp (atomicAt_of_numOf (hte ▸ hall e he))
  have frame : ∀ q y, getPath new q = some y → Atomic y → (q ≠ tp ∨ cfg.setsVariable = false) →
      getPath r q = some y := by
    intro q y hq hay hne
    rcases hfin with ⟨hflag, hset⟩ | ⟨_, rfl⟩
    · obtain ⟨yt, hyt, hayt⟩ := htp
      have hqtp : tp ≠ q := fun e => hne.elim (fun h1 => h1 e.symm) (fun h1 => by rw [hflag] at h1; cases h1)
      exact get_set_other hyt hayt hq hay hqtp hset
    · exact hq
  constructor
  · intro p a hp hne
    obtain ⟨e, he, rfl, hg⟩ := hin p (hmap ▸ walk_complete hp)
    obtain ⟨ys, hs, hf⟩ := hvals e he
    exact ⟨ys, e.2, hs, hf, frame _ _ hg (atomic_num _) hne⟩
  · intro q y hq hay hnn hne
    refine frame q y (hout q y hq hay fun hmem => ?_) hay hne
    obtain ⟨b, hb⟩ := hA.leaf (hmap ▸ hmem)
    exact hnn b (Option.some.inj (hq.symm.trans hb))

theorem getitem_miss_variable {cfg : Cfg} {f} {tmpl : Val} {rest : List Val} {tp : IPath} {v : Rat} {ps} {r : Val}
    (hflag : cfg.setsVariable = true) (hps : pairs tp (tmpl :: rest) = .ok ps) (hl : lookupLast v ps = none)
    (h : getitem cfg f (tmpl :: rest) tp v = .ok r) : getPath r tp = some (.num v) := by
  obtain ⟨_, new, _, _, hfin⟩ := getitem_miss hps hl h
  rcases hfin with ⟨_, hset⟩ | ⟨hoff, _⟩
  · exact get_of_set hset
  · rw [hflag] at hoff; cases hoff

/-- With pairwise distinct abscissae the answer at a float place depends only on which instances are
supplied: not on their order, nor on how often one occurs. -/
theorem getitem_float_congr {cfg : Cfg} {f} {tmpl tmpl' : Val} {rest rest' : List Val} {tp : IPath}
    {v : Rat} {ps : List (Rat × Val)} {r r' : Val}
    (hsame : ∀ i, i ∈ tmpl :: rest ↔ i ∈ tmpl' :: rest')
    (hps : pairs tp (tmpl :: rest) = .ok ps) (hnd : (ps.map (·.1)).Nodup)
    (hA : Addressable tmpl) (hA' : Addressable tmpl')
    (h : getitem cfg f (tmpl :: rest) tp v = .ok r)
    (h' : getitem cfg f (tmpl' :: rest') tp v = .ok r')
    {p : IPath} {a a' : Rat} (hp : getPath tmpl p = some (.num a))
    (hp' : getPath tmpl' p = some (.num a')) :
    getPath r p = getPath r' p := by
  obtain ⟨ps', hps'⟩ := pairs_ok_of_getitem h'
  -- both value maps hold the same pairs, which is all that `lookupLast` and `sortedKeys` see
  have hmem : ∀ e, e ∈ ps ↔ e ∈ ps' := fun e =>
    (mem_pairs_iff hps).trans ((and_congr_left' (hsame _)).trans (mem_pairs_iff hps').symm)
  have hlook : ∀ k, lookupLast k ps = lookupLast k ps' := lookupLast_congr hnd hmem
  have hkeys : sortedKeys (ps.map (·.1)) = sortedKeys (ps'.map (·.1)) :=
    sortedKeys_congr (fun a => by simp only [List.mem_map, hmem])
  cases hl : lookupLast v ps with
  | some i =>
    cases h.symm.trans (getitem_hit cfg f hps hl)
    cases h'.symm.trans (getitem_hit cfg f hps' (hlook v ▸ hl))
    rfl
  | none =>
    have hl' : lookupLast v ps' = none := hlook v ▸ hl
    by_cases hcase : p ≠ tp ∨ cfg.setsVariable = false
    · obtain ⟨ys, val, hs, hf, hg⟩ := (miss_structure hps hl hA h).1 p a hp hcase
      obtain ⟨ys', val', hs', hf', hg'⟩ :=
        (miss_structure hps' hl' hA' h').1 p a' hp' hcase
      rw [← hkeys, ← seriesAt_congr hlook p] at hs'
      rw [hs] at hs'
      cases hs'
      rw [← hkeys, hf] at hf'
      cases hf'
      rw [hg, hg']
    · obtain ⟨h1, h2⟩ := not_or.mp hcase
      have hptp : p = tp := Decidable.not_not.mp h1
      subst hptp
      have hflag := (Bool.not_eq_false _).mp h2
      rw [getitem_miss_variable hflag hps hl h,
        getitem_miss_variable hflag hps' hl' h']

end AF.Interp
