import AFModel.DblArith
import AFProofs.Lemmas.PriorDbl

/-!
IEEE arithmetic on doubles as data (`AFModel/DblArith.lean`) for `AFProofs/C02.lean`: multiplication by a
positive finite double (`Dbl.signed_mono` at the magnitude map `mulMag`) and addition of a finite double are
non-decreasing, negation is order reversing; sums and products with a non-negative operand for `random.uniform`.
-/

namespace AF.Prior

namespace Dbl

theorem key_natAbs (x : Dbl) : x.key.natAbs = x.mag := by
  unfold key
  split <;> omega

theorem key_bounds (x : Dbl) (h : x.isNaN = false) : -(infMag : Int) ≤ x.key ∧ x.key ≤ infMag := by
  rw [isNaN_false_iff, ← key_natAbs] at h
  omega

/-! ### rounding a signed fraction -/

theorem ofRat_notNaN (n : Int) (den : Nat) : (ofRat n den).isNaN = false := by
  rw [isNaN_false_iff]
  exact nearestBits_le_inf _ _

theorem ofRat_key (n : Int) (den : Nat) :
    (ofRat n den).key = if n < 0 then -(nearestBits n.natAbs den : Int) else (nearestBits n.natAbs den : Int) := by
  unfold ofRat key
  by_cases h : n < 0 <;> simp [h]

theorem ofRat_key_mono (n n' : Int) (den : Nat) (hden : den ≠ 0) (h : n ≤ n') :
    (ofRat n den).key ≤ (ofRat n' den).key := by
  rw [ofRat_key, ofRat_key]
  have z := nearestBits_zero den
  by_cases h1 : n < 0 <;> by_cases h2 : n' < 0 <;> simp only [h1, h2, if_true, if_false]
  · have := nearestBits_mono n'.natAbs n.natAbs den hden (by omega)
    omega
  · omega
  · omega
  · have := nearestBits_mono n.natAbs n'.natAbs den hden (by omega)
    omega

theorem neg_key (a : Dbl) : (neg' a).key = -a.key := by
  unfold neg' key
  cases a.neg <;> simp

theorem neg_isNaN (a : Dbl) : (neg' a).isNaN = a.isNaN := rfl

theorem neg_exact (a : Dbl) : (neg' a).exact = -a.exact := by
  unfold neg' exact
  cases a.neg <;> simp

theorem neg_anti (a b : Dbl) (h : a ≤ b) : neg' b ≤ neg' a := by
  rw [le_def] at *
  rw [neg_key, neg_key, neg_isNaN, neg_isNaN]
  exact ⟨h.2.1, h.1, by omega⟩

/-! ### addition of a finite double -/

theorem finite_iff (a : Dbl) : a.isFinite = true ↔ a.mag < infMag := by
  unfold isFinite; simp

theorem isInf_iff (a : Dbl) : a.isInf = true ↔ a.mag = infMag := by
  unfold isInf; simp

theorem notNaN_of_lt (a : Dbl) (h : a.mag < infMag) : a.isNaN = false :=
  (isNaN_false_iff a).mpr (Nat.le_of_lt h)

theorem notNaN_of_finite (x : Dbl) (h : x.isFinite = true) : x.isNaN = false :=
  notNaN_of_lt x ((finite_iff x).mp h)

theorem notInf_of_lt (a : Dbl) (h : a.mag < infMag) : a.isInf = false := by
  unfold isInf
  simp only [decide_eq_false_iff_not]
  omega

theorem add_finite_key (a b : Dbl) (ha : a.mag < infMag) (hb : b.mag < infMag) :
    (add a b).isNaN = false ∧ (add a b).key = (ofRat (a.exact + b.exact) (2 ^ 1074)).key := by
  have na : a.isNaN = false := (isNaN_false_iff a).mpr (by omega)
  have nb : b.isNaN = false := (isNaN_false_iff b).mpr (by omega)
  have ia : a.isInf = false := notInf_of_lt a (by omega)
  have ib : b.isInf = false := notInf_of_lt b (by omega)
  unfold add
  simp only [na, nb, ia, ib, Bool.or_self, Bool.false_eq_true, if_false]
  by_cases hn : a.exact + b.exact = 0
  · simp only [hn, if_true]
    refine ⟨by simp [isNaN, infMag], ?_⟩
    rw [ofRat_key]
    simp [key, nearestBits_zero]
  · simp only [hn, if_false]
    exact ⟨ofRat_notNaN _ _, trivial⟩

theorem add_inf (x b : Dbl) (hx : x.isNaN = false) (hxm : x.mag = infMag) (hb : b.mag < infMag) :
    add x b = x := by
  unfold add
  simp [hx, notNaN_of_lt b hb, (isInf_iff x).mpr hxm, notInf_of_lt b hb]

theorem add_mono_left (a a' b : Dbl) (hb : b.isFinite = true) (h : a ≤ a') : add a b ≤ add a' b := by
  rw [finite_iff] at hb
  obtain ⟨ha, ha', hk⟩ := (le_def a a').mp h
  have hma := (isNaN_false_iff a).mp ha
  have hma' := (isNaN_false_iff a').mp ha'
  have k1 := key_natAbs a
  have k2 := key_natAbs a'
  by_cases fa : a.mag < infMag <;> by_cases fa' : a'.mag < infMag
  · obtain ⟨n1, e1⟩ := add_finite_key a b fa hb
    obtain ⟨n2, e2⟩ := add_finite_key a' b fa' hb
    refine ⟨n1, n2, ?_⟩
    rw [e1, e2]
    apply ofRat_key_mono _ _ _ (Nat.ne_of_gt (Nat.two_pow_pos 1074))
    have := (le_iff_exact a a' ((finite_iff a).mpr fa) ((finite_iff a').mpr fa')).mp h
    omega
  · -- `a'` is infinite, and not below the finite `a`: it is `+inf`
    obtain ⟨n1, _⟩ := add_finite_key a b fa hb
    have kb := key_bounds _ n1
    rw [add_inf a' b ha' (by omega) hb]
    exact ⟨n1, ha', by omega⟩
  · obtain ⟨n2, _⟩ := add_finite_key a' b fa' hb
    have kb := key_bounds _ n2
    rw [add_inf a b ha (by omega) hb]
    exact ⟨ha, n2, by omega⟩
  · rw [add_inf a b ha (by omega) hb, add_inf a' b ha' (by omega) hb]
    exact h

theorem add_comm (a b : Dbl) : add a b = add b a := by
  obtain ⟨sa, ma⟩ := a
  obtain ⟨sb, mb⟩ := b
  unfold add
  simp only [isNaN, isInf, exact]
  by_cases na : infMag < ma <;> by_cases nb : infMag < mb <;>
    simp only [na, nb, decide_true, decide_false, Bool.or_true, Bool.true_or, Bool.or_self, if_true,
      Bool.false_eq_true, if_false]
  by_cases ia : ma = infMag <;> by_cases ib : mb = infMag <;>
    simp only [ia, ib, decide_true, decide_false, Bool.true_and, Bool.false_and, if_true,
      Bool.false_eq_true, if_false]
  · cases sa <;> cases sb <;> simp
  · rw [Int.add_comm, Bool.and_comm]

theorem add_mono_right (a b b' : Dbl) (ha : a.isFinite = true) (h : b ≤ b') : add a b ≤ add a b' := by
  rw [add_comm a b, add_comm a b']
  exact add_mono_left b b' a ha h

theorem finite_of_between (x lo hi : Dbl) (hlo : lo ≤ x) (hhi : x ≤ hi) (flo : lo.isFinite = true)
    (fhi : hi.isFinite = true) : x.isFinite = true := by
  rw [finite_iff, ← key_natAbs] at *
  have h1 := hlo.2.2
  have h2 := hhi.2.2
  omega

/-! ### the difference of two distinct finite doubles is not zero -/

theorem nearestBits_pos (num den : Nat) (hden : 0 < den) (h : den ≤ num * 2 ^ 1074) :
    0 < nearestBits num den := by
  rw [nearestBits_eq _ _ (by omega)]
  have hpos : (0 : Nat) < infMag := by decide +kernel
  have : 0 < nbRaw (num * 2 ^ 1074) den := by
    unfold nbRaw
    generalize num * 2 ^ 1074 = N at *
    by_cases hs : (N / den).log2 - 52 = 0
    · rw [hs, Nat.pow_zero, Nat.mul_one]
      have : 1 ≤ divRoundHalfEven N den := rhe_ge_of_mul_le N 1 den hden (by omega)
      omega
    · have : 0 < ((N / den).log2 - 52) * 2 ^ 52 := Nat.mul_pos (by omega) (Nat.two_pow_pos 52)
      exact Nat.lt_of_lt_of_le this (Nat.le_add_right _ _)
  split <;> omega

theorem lt_iff_exact (a b : Dbl) (ha : a.isFinite = true) (hb : b.isFinite = true) :
    a < b ↔ a.exact < b.exact := by
  have h := le_iff_exact b a hb ha
  have na := notNaN_of_finite a ha
  have nb := notNaN_of_finite b hb
  rw [lt_def]
  rw [le_def] at h
  simp only [na, nb, true_and] at h ⊢
  omega

/-- the difference may be `+inf` -/
theorem sub_pos (L U : Dbl) (hL : L.isFinite = true) (hU : U.isFinite = true) (h : L < U) :
    (sub U L).neg = false ∧ 0 < (sub U L).mag := by
  have hx := (lt_iff_exact L U hL hU).mp h
  have hL' := (finite_iff L).mp hL
  have hU' := (finite_iff U).mp hU
  have nL := notNaN_of_finite L hL
  have nU := notNaN_of_finite U hU
  have iL : (neg' L).isInf = false := notInf_of_lt (neg' L) hL'
  have iU : U.isInf = false := notInf_of_lt U hU'
  unfold sub add
  rw [neg_isNaN, neg_exact]
  have hn : ¬ (U.exact + -L.exact = 0) := by omega
  simp only [nL, nU, iL, iU, Bool.or_self, Bool.false_eq_true, if_false, hn]
  unfold ofRat
  refine ⟨by simp; omega, ?_⟩
  simp only
  apply nearestBits_pos _ _ (Nat.two_pow_pos 1074)
  apply Nat.le_mul_of_pos_left
  omega

/-! ### multiplication by a positive finite double -/

theorem mul_comm (a b : Dbl) : mul a b = mul b a := by
  unfold mul
  rw [Bool.or_comm a.isNaN, Bool.or_comm (a.isInf && _), Bool.or_comm a.isInf, bne_comm (a := a.neg),
    Nat.mul_comm (magVal a.mag)]

/-- magnitude of `c * x` for a finite `c` -/
def mulMag (cm : Nat) (m : Nat) : Nat :=
  if m = infMag then infMag else nearestBits (magVal cm * magVal m) (2 ^ 1074 * 2 ^ 1074)

theorem mulMag_spec (cm : Nat) :
    (∀ m m', m ≤ m' → m' ≤ infMag → mulMag cm m ≤ mulMag cm m') ∧ mulMag cm 0 = 0 ∧
    (∀ m, m ≤ infMag → mulMag cm m ≤ infMag) := by
  have hpos : (0 : Nat) < infMag := by decide +kernel
  refine ⟨?_, ?_, ?_⟩
  · intro m m' h hm'
    unfold mulMag
    split <;> split
    · omega
    · omega
    · exact nearestBits_le_inf _ _
    · apply nearestBits_mono _ _ _ (by have := Nat.two_pow_pos 1074; have := Nat.mul_pos this this; omega)
      exact Nat.mul_le_mul_left _ (magVal_mono m m' h)
  · unfold mulMag
    rw [if_neg (by omega), magVal_zero, Nat.mul_zero, nearestBits_zero]
  · intro m _
    unfold mulMag
    split
    · omega
    · exact nearestBits_le_inf _ _

theorem mul_pos_left_form (c x : Dbl) (hc : c.mag < infMag) (hc0 : 0 < c.mag) (hcn : c.neg = false)
    (hx : x.isNaN = false) : mul c x = ⟨x.neg, mulMag c.mag x.mag⟩ := by
  have c0 : decide (c.mag = 0) = false := by simp; omega
  unfold mul mulMag
  simp only [notNaN_of_lt c hc, hx, notInf_of_lt c hc, c0, hcn, Bool.or_self, Bool.false_eq_true, if_false,
    Bool.false_and, Bool.and_false, Bool.false_or, Bool.false_bne]
  by_cases hi : x.mag = infMag
  · have : x.isInf = true := (isInf_iff x).mpr hi
    simp [this, hi]
  · have : x.isInf = false := by
      cases h : x.isInf
      · rfl
      · exact absurd ((isInf_iff x).mp h) hi
    simp [this, hi]

theorem mul_pos_zero (c : Dbl) (hc : c.mag < infMag) (hc0 : 0 < c.mag) (hcn : c.neg = false) :
    mul c zero = zero := by
  rw [mul_pos_left_form c zero hc hc0 hcn (by decide +kernel)]
  show (⟨false, mulMag c.mag 0⟩ : Dbl) = ⟨false, 0⟩
  rw [(mulMag_spec c.mag).2.1]

theorem mul_pos_left_mono (c x x' : Dbl) (hc : c.mag < infMag) (hc0 : 0 < c.mag) (hcn : c.neg = false)
    (h : x ≤ x') : mul c x ≤ mul c x' := by
  rw [mul_pos_left_form c x hc hc0 hcn h.1, mul_pos_left_form c x' hc hc0 hcn h.2.1]
  obtain ⟨g1, g2, g3⟩ := mulMag_spec c.mag
  exact signed_mono (mulMag c.mag) g1 g2 g3 x x' h

theorem mul_pos_right_mono (c x x' : Dbl) (hc : c.mag < infMag) (hc0 : 0 < c.mag) (hcn : c.neg = false)
    (h : x ≤ x') : mul x c ≤ mul x' c := by
  rw [mul_comm x, mul_comm x']
  exact mul_pos_left_mono c x x' hc hc0 hcn h

/-- conversion to the nearest double fixes the doubles: the exact value of a finite double converts back to
its own bits -/
theorem nearestBits_magVal (m : Nat) (h : m < infMag) : nearestBits (magVal m) (2 ^ 1074) = m := by
  have hden : 0 < 2 ^ 1074 := Nat.two_pow_pos 1074
  have hm := (Nat.div_add_mod' m (2 ^ 52)).symm
  have r1 : m % 2 ^ 52 < 2 ^ 52 := Nat.mod_lt _ (Nat.two_pow_pos 52)
  generalize m / 2 ^ 52 = ex at hm
  generalize m % 2 ^ 52 = fr at hm r1
  subst hm
  rw [nearestBits_eq _ _ (Nat.ne_of_gt hden), magVal_eq ex fr r1]
  have key : nbRaw ((if ex = 0 then fr else (fr + 2 ^ 52) * 2 ^ (ex - 1)) * 2 ^ 1074) (2 ^ 1074)
      = ex * 2 ^ 52 + fr := by
    cases ex with
    | zero =>
      have := nbRaw_exact fr 0 (2 ^ 1074) hden (by omega) (fun h => absurd h (Nat.lt_irrefl 0))
      rw [Nat.pow_zero, Nat.mul_one] at this
      rw [if_pos rfl]
      exact this
    | succ j =>
      rw [if_neg (Nat.succ_ne_zero j), Nat.add_sub_cancel,
        nbRaw_exact (fr + 2 ^ 52) j _ hden (by omega) (fun _ => by omega)]
      omega
  rw [key, if_pos h]

/-- up to the sign of a zero -/
theorem add_zero_key (x : Dbl) (hx : x.isFinite = true) : (add x zero).key = x.key := by
  have hm := (finite_iff x).mp hx
  obtain ⟨_, k⟩ := add_finite_key x zero hm (by decide +kernel)
  rw [k]
  have ez : zero.exact = 0 := by decide +kernel
  rw [ez, Int.add_zero, ofRat_key]
  unfold exact key
  cases hn : x.neg
  · simp only [Bool.false_eq_true, if_false]
    have : ¬ ((magVal x.mag : Int) < 0) := by omega
    simp only [this, if_false, Int.natAbs_natCast, nearestBits_magVal x.mag hm]
  · simp only [if_true]
    by_cases h0 : x.mag = 0
    · simp [h0, magVal_zero, nearestBits_zero]
    · have hp : 0 < magVal x.mag := by
        have := magVal_strictMono 0 x.mag (by omega)
        rw [magVal_zero] at this; exact this
      have : (-(magVal x.mag : Int)) < 0 := by omega
      simp only [this, if_true, Int.natAbs_neg, Int.natAbs_natCast, nearestBits_magVal x.mag hm]

/-! ### `random.uniform` on doubles -/

theorem zero_key : zero.key = 0 := by decide +kernel

theorem zero_le_of_key (x : Dbl) (hn : x.isNaN = false) (hk : 0 ≤ x.key) : zero ≤ x := by
  refine ⟨by decide +kernel, hn, ?_⟩
  rw [zero_key]
  exact hk

theorem sub_self_key (x : Dbl) (hx : x.isFinite = true) : (sub x x).isNaN = false ∧ (sub x x).key = 0 := by
  have hm := (finite_iff x).mp hx
  obtain ⟨n, k⟩ := add_finite_key x (neg' x) hm hm
  unfold sub
  refine ⟨n, ?_⟩
  rw [k, neg_exact, ofRat_key]
  have : x.exact + -x.exact = 0 := by omega
  rw [this]
  simp [nearestBits_zero]

theorem sub_nonneg (x y : Dbl) (hx : x.isFinite = true) (hxy : x ≤ y) : zero ≤ sub y x := by
  have h1 := add_mono_left x y (neg' x) hx hxy
  obtain ⟨n, k⟩ := sub_self_key x hx
  have h0 : zero ≤ sub x x := zero_le_of_key _ n (by omega)
  exact le_trans _ _ _ h0 h1

/-- a zero factor gives a zero, otherwise both signs are `+` -/
theorem mul_nonneg (d r : Dbl) (hd : d.isFinite = true) (hd0 : zero ≤ d) (hr : r.isFinite = true)
    (hr0 : zero ≤ r) : zero ≤ mul d r := by
  have hdm := (finite_iff d).mp hd
  have hrm := (finite_iff r).mp hr
  have kd := hd0.2.2
  have kr := hr0.2.2
  rw [zero_key] at kd kr
  have e : mul d r = ⟨d.neg != r.neg, nearestBits (magVal d.mag * magVal r.mag) (2 ^ 1074 * 2 ^ 1074)⟩ := by
    unfold mul
    simp only [notNaN_of_lt d hdm, notNaN_of_lt r hrm, notInf_of_lt d hdm, notInf_of_lt r hrm, Bool.or_self,
      Bool.false_eq_true, if_false, Bool.false_and]
  have hz : (d.mag = 0 ∨ r.mag = 0) → magVal d.mag * magVal r.mag = 0 := by
    intro hz
    rcases hz with hz | hz
    · rw [hz, magVal_zero, Nat.zero_mul]
    · rw [hz, magVal_zero, Nat.mul_zero]
  have hN := nearestBits_le_inf (magVal d.mag * magVal r.mag) (2 ^ 1074 * 2 ^ 1074)
  have hN0 : (d.mag = 0 ∨ r.mag = 0) →
      nearestBits (magVal d.mag * magVal r.mag) (2 ^ 1074 * 2 ^ 1074) = 0 :=
    fun h => by rw [hz h, nearestBits_zero]
  rw [e]
  generalize nearestBits (magVal d.mag * magVal r.mag) (2 ^ 1074 * 2 ^ 1074) = N at hN hN0 ⊢
  refine zero_le_of_key _ ((isNaN_false_iff _).mpr hN) ?_
  unfold key at kd kr ⊢
  cases hdn : d.neg <;> cases hrn : r.neg <;> simp [hdn, hrn] at kd kr ⊢ <;> omega

theorem le_add_right (x e : Dbl) (hx : x.isFinite = true) (he : zero ≤ e) : x ≤ add x e := by
  have h2 := add_mono_right x _ _ hx he
  have h3 : x ≤ add x zero :=
    ⟨notNaN_of_finite x hx, h2.1, by rw [add_zero_key x hx]; exact Int.le_refl _⟩
  exact le_trans _ _ _ h3 h2

/-- Python's `random.uniform(x, y) = x + (y - x) * r` never falls below `x` -/
theorem uniform_ge_lower (x y r : Dbl) (hx : x.isFinite = true) (hxy : x ≤ y)
    (hd : (sub y x).isFinite = true) (hr : r.isFinite = true) (hr0 : zero ≤ r) :
    x ≤ add x (mul (sub y x) r) :=
  le_add_right x _ hx (mul_nonneg (sub y x) r hd (sub_nonneg x y hx hxy) hr hr0)

end Dbl

/-- non-decreasing on all doubles: two order-reversing subtractions from `1.0` around a doubling -/
theorem argD_mono (u v : Dbl) (h : u ≤ v) : argD u ≤ argD v := by
  have f1 : Dbl.one.isFinite = true := by decide +kernel
  have s := Dbl.add_mono_right Dbl.one _ _ f1 (Dbl.neg_anti u v h)
  have m := Dbl.mul_pos_left_mono Dbl.two _ _ (by decide +kernel) (by decide +kernel) rfl s
  exact Dbl.add_mono_right Dbl.one _ _ f1 (Dbl.neg_anti _ _ m)

end AF.Prior
