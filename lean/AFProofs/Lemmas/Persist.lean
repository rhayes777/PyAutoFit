import AFModel.DictForm
import AFProofs.Lemmas.Comp

/-! Structural induction over `Node` with its attribute lists; `renameIds` and `canonNames` (the prior ids and
operand names a reload changes, C08) commute with the walk and are not seen by the instance (`instW_rename`);
`firstOcc` and `indexOf?`. -/

namespace AF

section
variable {V : Type} {P : Node V → Prop} {PA : List (String × Node V) → Prop}
  (prior : ∀ id, P (.prior id)) (const : ∀ v, P (.const v)) (opaq : ∀ t, P (.opaque t))
  (model : ∀ cls ctor a, PA a → P (.model cls ctor a))
  (coll : ∀ a, PA a → P (.coll a))
  (tuple : ∀ a, PA a → P (.tuple a))
  (arith : ∀ op a l r, PA a → P l → P r → P (.arith op a l r))
  (modif : ∀ op a x, PA a → P x → P (.modif op a x))
  (array : ∀ sh a, PA a → P (.array sh a))
  (nil : PA []) (cons : ∀ k n rest, P n → PA rest → PA ((k, n) :: rest))
include prior const opaq model coll tuple arith modif array nil cons

/-- Structural induction over every child of a node (the attributes and the operands of `.arith` / `.modif`), with
a motive `PA` for attribute lists. Both conclusions come as one conjunction, so that `apply Node.induct_attrs`
reads both motives off the goal. -/
theorem Node.induct_attrs : (∀ n, P n) ∧ (∀ a, PA a) :=
  have h : ∀ n, P n := Node.rec (motive_1 := P) (motive_2 := PA) (motive_3 := fun kn => P kn.2)
    prior const opaq model coll tuple arith modif array nil (fun kn rest => cons kn.1 kn.2 rest) (fun _ _ h => h)
  ⟨h, fun a => List.rec (motive := PA) nil (fun kn rest ih => cons kn.1 kn.2 rest (h kn.2) ih) a⟩
end

theorem walk_rename_all {V} (σ : Nat → Nat) :
    (∀ n : Node V, walk (renameIds σ n) = (walk n).map (fun x => (x.1, σ x.2))) ∧
    (∀ attrs : List (String × Node V),
      walkAttrs (renameAttrs σ attrs) = (walkAttrs attrs).map (fun x => (x.1, σ x.2))) := by
  apply Node.induct_attrs <;> intros <;>
    simp only [renameIds, renameAttrs, walk, walkAttrs, List.map_append, List.map_map, List.map_cons, List.map_nil, *]
  rfl

theorem walk_rename {V} (σ : Nat → Nat) : ∀ (n : Node V),
    walk (renameIds σ n) = (walk n).map (fun x => (x.1, σ x.2)) := (walk_rename_all σ).1
theorem walkAttrs_rename {V} (σ : Nat → Nat) : ∀ (attrs : List (String × Node V)),
    walkAttrs (renameAttrs σ attrs) = (walkAttrs attrs).map (fun x => (x.1, σ x.2)) := (walk_rename_all σ).2

theorem walk_ids_rename {V} (σ : Nat → Nat) (n : Node V) :
    (walk (renameIds σ n)).map (·.2) = ((walk n).map (·.2)).map σ := by
  rw [walk_rename, List.map_map, List.map_map]; rfl

theorem renameIds_id_all {V} :
    (∀ n : Node V, renameIds id n = n) ∧ (∀ attrs : List (String × Node V), renameAttrs id attrs = attrs) := by
  apply Node.induct_attrs <;> intros <;> simp only [renameIds, renameAttrs, id, *]

theorem renameIds_id {V} : ∀ (n : Node V), renameIds id n = n := renameIds_id_all.1
theorem renameAttrs_id {V} : ∀ (attrs : List (String × Node V)), renameAttrs id attrs = attrs := renameIds_id_all.2

theorem renameIds_comp_all {V} (σ τ : Nat → Nat) :
    (∀ n : Node V, renameIds τ (renameIds σ n) = renameIds (fun i => τ (σ i)) n) ∧
    (∀ attrs : List (String × Node V), renameAttrs τ (renameAttrs σ attrs) = renameAttrs (fun i => τ (σ i)) attrs) := by
  apply Node.induct_attrs <;> intros <;> simp only [renameIds, renameAttrs, *]

theorem renameIds_comp {V} (σ τ : Nat → Nat) : ∀ (n : Node V),
    renameIds τ (renameIds σ n) = renameIds (fun i => τ (σ i)) n := (renameIds_comp_all σ τ).1
theorem renameAttrs_comp {V} (σ τ : Nat → Nat) : ∀ (attrs : List (String × Node V)),
    renameAttrs τ (renameAttrs σ attrs) = renameAttrs (fun i => τ (σ i)) attrs := (renameIds_comp_all σ τ).2

/-- The instance sees neither how the priors are numbered nor how an arithmetic prior names its operands.
The four ways an attribute list is instantiated inspect only the constructor of each member, which neither
change touches: one case analysis per member serves all four. -/
theorem instW_reload_all {V} [Inhabited V] (ops : Ops V) (ρ : Nat → Inst V) (σ : Nat → Nat) :
    (∀ n : Node V, instW ops ρ (canonNames (renameIds σ n)) = instW ops (fun i => ρ (σ i)) n) ∧
    (∀ attrs : List (String × Node V),
      (∀ ctor, instModelAttrs ops ρ ctor (canonNamesAttrs (renameAttrs σ attrs)) =
        instModelAttrs ops (fun i => ρ (σ i)) ctor attrs) ∧
      instCollAttrs ops ρ (canonNamesAttrs (renameAttrs σ attrs)) = instCollAttrs ops (fun i => ρ (σ i)) attrs ∧
      instTupleAttrs ops ρ (canonNamesAttrs (renameAttrs σ attrs)) = instTupleAttrs ops (fun i => ρ (σ i)) attrs ∧
      instArrayEntries ops ρ (canonNamesAttrs (renameAttrs σ attrs)) = instArrayEntries ops (fun i => ρ (σ i)) attrs) := by
  apply Node.induct_attrs
  case cons =>
    intro k n rest hn ⟨h1, h2, h3, h4⟩
    cases n <;> simp only [renameIds, canonNames] at hn <;>
      simp only [renameAttrs, renameIds, canonNamesAttrs, canonNames, instModelAttrs, instCollAttrs, instTupleAttrs,
        instArrayEntries, hn, h1, h2, h3, h4, and_self, implies_true]
  all_goals intros; simp only [renameIds, renameAttrs, canonNames, canonNamesAttrs, instW, instModelAttrs, instCollAttrs,
    instTupleAttrs, instArrayEntries, and_self, implies_true, *]

section
variable {V : Type}

theorem instW_canonNames [Inhabited V] (ops : Ops V) (ρ : Nat → Inst V) : ∀ (n : Node V),
    instW ops ρ (canonNames n) = instW ops ρ n := fun n => by
  have h := (instW_reload_all ops ρ id).1 n
  rw [renameIds_id] at h; exact h
theorem instModelAttrs_canonNames [Inhabited V] (ops : Ops V) (ρ : Nat → Inst V) (ctor : List String) :
    ∀ (attrs : List (String × Node V)),
    instModelAttrs ops ρ ctor (canonNamesAttrs attrs) = instModelAttrs ops ρ ctor attrs := fun attrs => by
  have h := ((instW_reload_all ops ρ id).2 attrs).1 ctor
  rw [renameAttrs_id] at h; exact h
theorem instCollAttrs_canonNames [Inhabited V] (ops : Ops V) (ρ : Nat → Inst V) :
    ∀ (attrs : List (String × Node V)),
    instCollAttrs ops ρ (canonNamesAttrs attrs) = instCollAttrs ops ρ attrs := fun attrs => by
  have h := ((instW_reload_all ops ρ id).2 attrs).2.1
  rw [renameAttrs_id] at h; exact h
theorem instTupleAttrs_canonNames [Inhabited V] (ops : Ops V) (ρ : Nat → Inst V) :
    ∀ (attrs : List (String × Node V)),
    instTupleAttrs ops ρ (canonNamesAttrs attrs) = instTupleAttrs ops ρ attrs := fun attrs => by
  have h := ((instW_reload_all ops ρ id).2 attrs).2.2.1
  rw [renameAttrs_id] at h; exact h
theorem instArrayEntries_canonNames [Inhabited V] (ops : Ops V) (ρ : Nat → Inst V) :
    ∀ (attrs : List (String × Node V)),
    instArrayEntries ops ρ (canonNamesAttrs attrs) = instArrayEntries ops ρ attrs := fun attrs => by
  have h := ((instW_reload_all ops ρ id).2 attrs).2.2.2
  rw [renameAttrs_id] at h; exact h

end

theorem instW_rename {V} [Inhabited V] (ops : Ops V) (ρ : Nat → Inst V) (σ : Nat → Nat) : ∀ (n : Node V),
    instW ops ρ (renameIds σ n) = instW ops (fun i => ρ (σ i)) n :=
  fun n => (instW_canonNames ops ρ _).symm.trans ((instW_reload_all ops ρ σ).1 n)
theorem instModelAttrs_rename {V} [Inhabited V] (ops : Ops V) (ρ : Nat → Inst V) (σ : Nat → Nat) (ctor : List String) :
    ∀ (attrs : List (String × Node V)),
    instModelAttrs ops ρ ctor (renameAttrs σ attrs) = instModelAttrs ops (fun i => ρ (σ i)) ctor attrs :=
  fun attrs => (instModelAttrs_canonNames ops ρ ctor _).symm.trans (((instW_reload_all ops ρ σ).2 attrs).1 ctor)
theorem instCollAttrs_rename {V} [Inhabited V] (ops : Ops V) (ρ : Nat → Inst V) (σ : Nat → Nat) :
    ∀ (attrs : List (String × Node V)),
    instCollAttrs ops ρ (renameAttrs σ attrs) = instCollAttrs ops (fun i => ρ (σ i)) attrs :=
  fun attrs => (instCollAttrs_canonNames ops ρ _).symm.trans ((instW_reload_all ops ρ σ).2 attrs).2.1
theorem instTupleAttrs_rename {V} [Inhabited V] (ops : Ops V) (ρ : Nat → Inst V) (σ : Nat → Nat) :
    ∀ (attrs : List (String × Node V)),
    instTupleAttrs ops ρ (renameAttrs σ attrs) = instTupleAttrs ops (fun i => ρ (σ i)) attrs :=
  fun attrs => (instTupleAttrs_canonNames ops ρ _).symm.trans ((instW_reload_all ops ρ σ).2 attrs).2.2.1
theorem instArrayEntries_rename {V} [Inhabited V] (ops : Ops V) (ρ : Nat → Inst V) (σ : Nat → Nat) :
    ∀ (attrs : List (String × Node V)),
    instArrayEntries ops ρ (renameAttrs σ attrs) = instArrayEntries ops (fun i => ρ (σ i)) attrs :=
  fun attrs => (instArrayEntries_canonNames ops ρ _).symm.trans ((instW_reload_all ops ρ σ).2 attrs).2.2.2

/-- Both sides are duplicate-free lists of the same ids `σ i`, `i ∈ l`. -/
theorem length_sortDedup_map (σ : Nat → Nat) (l : List Nat)
    (hinj : ∀ i ∈ l, ∀ j ∈ l, σ i = σ j → i = j) :
    (sortDedup (l.map σ)).length = (sortDedup l).length := by
  have hnd : ((sortDedup l).map σ).Nodup :=
    List.pairwise_map.mpr ((nodup_of_sorted (sorted_sortDedup l)).imp_of_mem
      fun ha hb hne e => hne (hinj _ (mem_sortDedup.mp ha) _ (mem_sortDedup.mp hb) e))
  refine ((List.perm_ext_iff_of_nodup (nodup_of_sorted (sorted_sortDedup _)) hnd).mpr fun a => ?_).length_eq.trans
    (List.length_map _)
  simp only [mem_sortDedup, List.mem_map]

/-- both sides are the strictly increasing list of the ids `σ i`, `i ∈ l` -/
theorem sortDedup_map_mono (σ : Nat → Nat) (l : List Nat) (h : ∀ i ∈ l, ∀ j ∈ l, i < j → σ i < σ j) :
    sortDedup (l.map σ) = (sortDedup l).map σ := by
  refine eq_of_sorted_of_mem_iff (fun _ _ => Nat.lt_asymm) (sorted_sortDedup _)
    (List.pairwise_map.mpr ((sorted_sortDedup l).imp_of_mem fun ha hb =>
      h _ (mem_sortDedup.mp ha) _ (mem_sortDedup.mp hb))) fun a => ?_
  simp only [mem_sortDedup, List.mem_map]

theorem count_renameIds {V} (σ : Nat → Nat) (t : Node V)
    (hinj : ∀ i ∈ (walk t).map (·.2), ∀ j ∈ (walk t).map (·.2), σ i = σ j → i = j) :
    count (renameIds σ t) = count t := by
  rw [count, uniqueIds, walk_ids_rename]
  exact length_sortDedup_map σ _ hinj

theorem mem_firstOcc {x : Nat} : ∀ {l : List Nat}, x ∈ firstOcc l ↔ x ∈ l
  | [] => Iff.rfl
  | a :: l => by
    simp only [firstOcc, List.mem_cons, List.mem_filter, mem_firstOcc (l := l), bne_iff_ne, ne_eq]
    by_cases h : x = a <;> simp [h]

theorem nodup_firstOcc : ∀ (l : List Nat), (firstOcc l).Nodup
  | [] => by simp [firstOcc]
  | a :: l => by
    simp only [firstOcc, List.nodup_cons, List.mem_filter]
    refine ⟨fun h => by simp at h, (nodup_firstOcc l).filter _⟩

theorem indexOf?_eq_idxOf? : ∀ (l : List Nat) (i : Nat), indexOf? l i = l.idxOf? i
  | [], _ => rfl
  | x :: xs, i => by rw [indexOf?, List.idxOf?_cons, indexOf?_eq_idxOf? xs i]

theorem indexOf?_some_of_mem : ∀ (l : List Nat) (i : Nat), i ∈ l → ∃ k, indexOf? l i = some k ∧ k < l.length :=
  fun l i h => by
    rw [indexOf?_eq_idxOf?]
    cases hk : l.idxOf? i with
    | none => exact absurd h (List.idxOf?_eq_none_iff.mp hk)
    | some k => exact ⟨k, rfl, (List.idxOf?_eq_some_iff.mp hk).1⟩

/-- Hence two ids with one answer are one id. -/
theorem getElem?_of_indexOf? (l : List Nat) (i k : Nat) (h : indexOf? l i = some k) : l[k]? = some i := by
  obtain ⟨hk, e, _⟩ := List.idxOf?_eq_some_iff.mp ((indexOf?_eq_idxOf? l i).symm.trans h)
  rw [List.getElem?_eq_getElem hk, e]

end AF
