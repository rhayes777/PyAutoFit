import AFProofs.Lemmas.Msg
import Mathlib.Probability.Distributions.Gaussian.Real

/-! The real-number instance of the special functions of `AF.Msg` and the normal density. -/

namespace AF.Msg

open Real ProbabilityTheory MeasureTheory

/-- the real functions behind `numpy`'s `sqrt log exp log10 10**`; the remaining fields (Φ, Φ⁻¹, erf⁻¹,
φ, the infinities, comparisons) are taken from an arbitrary `sp` -/
noncomputable def realFn (sp : Fn ℝ) : Fn ℝ :=
  { sp with
    sqrt := Real.sqrt
    log := Real.log
    exp := Real.exp
    log10 := fun x => Real.log x / Real.log 10
    exp10 := fun x => (10 : ℝ) ^ x
    halfLog2Pi := Real.log (2 * π) / 2 }

theorem realFn_sqrtLaw (sp : Fn ℝ) : SqrtLaw (realFn sp) where
  sq := fun _ hx => Real.mul_self_sqrt hx
  nonneg := fun x => Real.sqrt_nonneg x

/-- `σ²` as a non-negative real (the variance argument of Mathlib's Gaussian) -/
noncomputable def varNN (σ : ℝ) : NNReal := ⟨σ ^ 2, sq_nonneg σ⟩

@[simp] theorem coe_varNN (σ : ℝ) : ((varNN σ : NNReal) : ℝ) = σ ^ 2 := rfl

theorem varNN_ne_zero {σ : ℝ} (h : 0 < σ) : varNN σ ≠ 0 :=
  fun h0 => (pow_pos h 2).ne' (congrArg NNReal.toReal h0)

/-- `exp(logpdf x)` of `NormalMessage(μ, σ)` is the standard normal density at `(x − μ) / σ`, divided by `σ` -/
theorem exp_logpdf_normal_std (sp : Fn ℝ) (a : Base ℝ) (hn : a.fam = .normal) (hσ : 0 < a.p2) (x : ℝ) :
    Real.exp (a.logpdf (realFn sp) x) = Real.exp (-(((x - a.p1) / a.p2) ^ 2) / 2) / √(2 * π) * (1 / a.p2) := by
  obtain ⟨fam, mu, sigma, ln, id, lo, hi⟩ := a
  simp only at hn hσ; subst hn
  have hs : sigma ≠ 0 := hσ.ne'
  have hr : -(1 / (sigma * sigma)) / 2 ≠ 0 := div_ne_zero (neg_ne_zero.2 (one_div_ne_zero (mul_ne_zero hs hs))) two_ne_zero
  -- the two terms of the log-partition function at the natural parameters of `(μ, σ)`
  have hquad : -(mu * (1 / (sigma * sigma)) * (mu * (1 / (sigma * sigma)))) / (2 + 2) / (-(1 / (sigma * sigma)) / 2) =
      mu * mu * (1 / (sigma * sigma)) / 2 := by
    rw [div_eq_iff hr]; ring
  have hlog : Real.log (-(2 * (-(1 / (sigma * sigma)) / 2))) = -(2 * Real.log sigma) := by
    rw [show -(2 * (-(1 / (sigma * sigma)) / 2)) = (sigma * sigma)⁻¹ by ring, Real.log_inv, Real.log_mul hs hs, two_mul]
  have hexp : Real.exp (Real.log (2 * π) / 2) = √(2 * π) := by
    rw [Real.exp_half, Real.exp_log Real.two_pi_pos]
  simp only [Base.logpdf, Base.natural, calcNatural, normalLogPartition, realFn]
  rw [hquad, hlog, show -(Real.log (2 * π) / 2) + (mu * (1 / (sigma * sigma)) * x + -(1 / (sigma * sigma)) / 2 * (x * x)) -
      (mu * mu * (1 / (sigma * sigma)) / 2 - -(2 * Real.log sigma) / 2) =
      -(((x - mu) / sigma) ^ 2) / 2 - Real.log (2 * π) / 2 - Real.log sigma by ring,
    Real.exp_sub, Real.exp_sub, Real.exp_log hσ, hexp, div_eq_mul_one_div (_ / _) sigma]

/-- every transform of the stack is differentiable, with derivative `exp(log_det)`, where `_transform_det`
applies it -/
def DerivOK (fn : Fn ℝ) : List (Tr ℝ) → ℝ → Prop
  | [], _ => True
  | t :: rest, x => DerivOK fn rest x ∧
      HasDerivAt (t.apply fn) (Real.exp (t.logDet fn (transformChain fn rest x))) (transformChain fn rest x)

end AF.Msg
