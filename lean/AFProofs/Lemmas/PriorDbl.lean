import AFModel.PriorDbl
import AFProofs.Lemmas.Prior

/-!
Doubles as data (`AFModel/PriorDbl.lean`) for `AFProofs/C02.lean`: the exact value is strictly increasing in the
magnitude bits, conversion of a fraction to the nearest double is non-decreasing in the numerator and fixes the
doubles, so CPython's `round(x, n)` is non-decreasing and cannot overflow; the order on `Dbl`; gate and clamp.
-/

namespace AF.Prior

theorem rhe_le_of_le_mul (a c d : Nat) (hd : 0 < d) (h : a ≤ c * d) : divRoundHalfEven a d ≤ c := by
  have := divRoundHalfEven_mono a (c * d) d h
  rwa [divRoundHalfEven_exact c d hd] at this

theorem rhe_ge_of_mul_le (a c d : Nat) (hd : 0 < d) (h : c * d ≤ a) : c ≤ divRoundHalfEven a d := by
  have := divRoundHalfEven_mono (c * d) a d h
  rwa [divRoundHalfEven_exact c d hd] at this

theorem rhe_zero (d : Nat) : divRoundHalfEven 0 d = 0 := by
  unfold divRoundHalfEven
  simp

theorem log2_mono (a b : Nat) (h : a ≤ b) : a.log2 ≤ b.log2 := by
  by_cases ha : a = 0
  · subst ha; simp
  · have hb : b ≠ 0 := by omega
    rw [Nat.le_log2 hb]
    exact Nat.le_trans (Nat.log2_self_le ha) h

/-! ### nearest double of a fraction -/

/-- the bits before the overflow test: `s * 2^52 + q` -/
def nbRaw (N den : Nat) : Nat :=
  ((N / den).log2 - 52) * 2 ^ 52 + divRoundHalfEven N (den * 2 ^ ((N / den).log2 - 52))

theorem nearestBits_eq (num den : Nat) (hden : den ≠ 0) :
    nearestBits num den
      = if nbRaw (num * 2 ^ 1074) den < infMag then nbRaw (num * 2 ^ 1074) den else infMag := by
  unfold nearestBits nbRaw
  rw [if_neg hden]

/-- the significand `q` is at most `2^53`, and at least `2^52` in the normal range -/
theorem nb_q_bounds (N den : Nat) (hden : 0 < den) :
    divRoundHalfEven N (den * 2 ^ ((N / den).log2 - 52)) ≤ 2 ^ 53 ∧
    (0 < (N / den).log2 - 52 → 2 ^ 52 ≤ divRoundHalfEven N (den * 2 ^ ((N / den).log2 - 52))) := by
  generalize hs : (N / den).log2 - 52 = s
  have hpos : 0 < den * 2 ^ s := Nat.mul_pos hden (Nat.two_pow_pos s)
  have e : ∀ j, 2 ^ (s + j) * den = 2 ^ j * (den * 2 ^ s) := fun j => by rw [Nat.pow_add]; ac_rfl
  constructor
  · apply rhe_le_of_le_mul _ _ _ hpos
    have h1 : N / den < 2 ^ ((N / den).log2 + 1) := Nat.lt_log2_self
    have h2 : 2 ^ ((N / den).log2 + 1) ≤ 2 ^ (s + 53) := Nat.pow_le_pow_right (by omega) (by omega)
    have h3 := (Nat.div_lt_iff_lt_mul hden).mp (Nat.lt_of_lt_of_le h1 h2)
    rw [e 53] at h3
    exact Nat.le_of_lt h3
  · intro hs0
    apply rhe_ge_of_mul_le _ _ _ hpos
    have ht : N / den ≠ 0 := by
      intro h0
      rw [h0] at hs
      simp at hs
      omega
    have h1 := Nat.log2_self_le ht
    rw [show (N / den).log2 = s + 52 by omega] at h1
    have h2 := (Nat.le_div_iff_mul_le hden).mp h1
    rw [e 52] at h2
    exact h2

theorem nbRaw_mono (N N' den : Nat) (hden : 0 < den) (h : N ≤ N') : nbRaw N den ≤ nbRaw N' den := by
  have hl := log2_mono _ _ (Nat.div_le_div_right (c := den) h)
  have hq := (nb_q_bounds N den hden).1
  have hq' := (nb_q_bounds N' den hden).2
  unfold nbRaw
  by_cases hss : (N / den).log2 - 52 = (N' / den).log2 - 52
  · rw [hss]
    exact Nat.add_le_add_left (divRoundHalfEven_mono N N' _ h) _
  · -- a smaller exponent: `q ≤ 2^53` below, `2^52 ≤ q'` above, and one exponent step is worth `2^52`
    have hlt : (N / den).log2 - 52 < (N' / den).log2 - 52 := by omega
    generalize (N / den).log2 - 52 = s at *
    generalize (N' / den).log2 - 52 = s' at *
    have hq'' := hq' (by omega)
    have : (s + 1) * 2 ^ 52 ≤ s' * 2 ^ 52 := Nat.mul_le_mul_right _ (by omega)
    generalize divRoundHalfEven N (den * 2 ^ s) = q at *
    generalize divRoundHalfEven N' (den * 2 ^ s') = q' at *
    omega

theorem nearestBits_mono (num num' den : Nat) (hden : den ≠ 0) (h : num ≤ num') :
    nearestBits num den ≤ nearestBits num' den := by
  rw [nearestBits_eq _ _ hden, nearestBits_eq _ _ hden]
  have := nbRaw_mono (num * 2 ^ 1074) (num' * 2 ^ 1074) den (by omega) (Nat.mul_le_mul_right _ h)
  split <;> split <;> omega

theorem nearestBits_le_inf (num den : Nat) : nearestBits num den ≤ infMag := by
  by_cases hden : den = 0
  · unfold nearestBits; simp [hden]
  · rw [nearestBits_eq _ _ hden]
    split <;> omega

theorem nearestBits_zero (den : Nat) : nearestBits 0 den = 0 := by
  by_cases hden : den = 0
  · unfold nearestBits; simp [hden]
  · rw [nearestBits_eq _ _ hden, Nat.zero_mul]
    have : nbRaw 0 den = 0 := by
      unfold nbRaw
      simp [rhe_zero]
    rw [this]
    simp [infMag]

/-! ### exact value as a function of the magnitude bits -/

theorem magVal_eq (ex fr : Nat) (hfr : fr < 2 ^ 52) :
    Dbl.magVal (ex * 2 ^ 52 + fr) = if ex = 0 then fr else (fr + 2 ^ 52) * 2 ^ (ex - 1) := by
  unfold Dbl.magVal
  rw [Nat.mul_comm, Nat.mul_add_div (Nat.two_pow_pos 52), Nat.mul_add_mod, Nat.div_eq_of_lt hfr,
    Nat.mod_eq_of_lt hfr, Nat.add_zero]

theorem magVal_binade (ex fr : Nat) (hfr : fr < 2 ^ 52) :
    Dbl.magVal (ex * 2 ^ 52 + fr) < 2 ^ 52 * 2 ^ ex ∧
      (0 < ex → 2 ^ 52 * 2 ^ (ex - 1) ≤ Dbl.magVal (ex * 2 ^ 52 + fr)) := by
  rw [magVal_eq ex fr hfr]
  cases ex with
  | zero => exact ⟨by simpa using hfr, fun h => absurd h (Nat.lt_irrefl 0)⟩
  | succ j =>
    rw [if_neg (Nat.succ_ne_zero j), Nat.add_sub_cancel, Nat.pow_succ 2 j, Nat.mul_comm (2 ^ j) 2,
      ← Nat.mul_assoc]
    exact ⟨(Nat.mul_lt_mul_right (Nat.two_pow_pos j)).mpr (by omega),
      fun _ => Nat.mul_le_mul_right _ (Nat.le_add_left _ _)⟩

theorem magVal_strictMono (m m' : Nat) (h : m < m') : Dbl.magVal m < Dbl.magVal m' := by
  have r1 : m % 2 ^ 52 < 2 ^ 52 := Nat.mod_lt _ (Nat.two_pow_pos 52)
  have r2 : m' % 2 ^ 52 < 2 ^ 52 := Nat.mod_lt _ (Nat.two_pow_pos 52)
  have hq : m / 2 ^ 52 ≤ m' / 2 ^ 52 := Nat.div_le_div_right (Nat.le_of_lt h)
  rw [← Nat.div_add_mod' m (2 ^ 52), ← Nat.div_add_mod' m' (2 ^ 52)] at h ⊢
  generalize m / 2 ^ 52 = ex at *
  generalize m' / 2 ^ 52 = ex' at *
  generalize m % 2 ^ 52 = fr at *
  generalize m' % 2 ^ 52 = fr' at *
  by_cases hee : ex = ex'
  · subst hee
    rw [magVal_eq ex fr r1, magVal_eq ex fr' r2]
    split
    · omega
    · exact (Nat.mul_lt_mul_right (Nat.two_pow_pos _)).mpr (by omega)
  · have b1 := (magVal_binade ex fr r1).1
    have b2 := (magVal_binade ex' fr' r2).2 (by omega)
    have : 2 ^ 52 * 2 ^ ex ≤ 2 ^ 52 * 2 ^ (ex' - 1) :=
      Nat.mul_le_mul_left _ (Nat.pow_le_pow_right (by omega) (by omega))
    omega

theorem magVal_mono (m m' : Nat) (h : m ≤ m') : Dbl.magVal m ≤ Dbl.magVal m' := by
  by_cases he : m = m'
  · subst he; exact Nat.le_refl _
  · exact Nat.le_of_lt (magVal_strictMono m m' (by omega))

theorem magVal_zero : Dbl.magVal 0 = 0 := by
  unfold Dbl.magVal; simp

theorem magVal_le_iff (m m' : Nat) : Dbl.magVal m ≤ Dbl.magVal m' ↔ m ≤ m' := by
  constructor
  · intro h
    apply Classical.byContradiction
    intro hn
    have := magVal_strictMono m' m (by omega)
    omega
  · exact magVal_mono m m'

/-! ### CPython `round(x, n)` on the magnitude bits -/

theorem roundMag_le_inf (n mag : Nat) (h : mag ≤ infMag) : roundMag n mag ≤ infMag := by
  unfold roundMag
  split
  · exact h
  · exact nearestBits_le_inf _ _

theorem roundMag_zero (n : Nat) : roundMag n 0 = 0 := by
  unfold roundMag
  rw [if_neg (by simp [infMag])]
  simp only [magVal_zero, Nat.zero_mul, rhe_zero, nearestBits_zero]

theorem roundMag_mono (n m m' : Nat) (h : m ≤ m') : roundMag n m ≤ roundMag n m' := by
  unfold roundMag
  split <;> split
  · exact h
  · omega
  · exact Nat.le_trans (nearestBits_le_inf _ _) (by omega)
  · have h10 : 0 < 10 ^ n := Nat.pow_pos (by omega)
    apply nearestBits_mono _ _ _ (by omega)
    apply divRoundHalfEven_mono
    exact Nat.mul_le_mul_right _ (magVal_mono m m' h)

/-! ### a fraction that is a double converts to itself -/

theorem log2_shift (a k : Nat) (h1 : 2 ^ 52 ≤ a) (h2 : a < 2 ^ 53) : (a * 2 ^ k).log2 = 52 + k := by
  have hne : a * 2 ^ k ≠ 0 := Nat.ne_of_gt (Nat.mul_pos (by omega) (Nat.two_pow_pos k))
  have lo : 52 + k ≤ (a * 2 ^ k).log2 := by
    rw [Nat.le_log2 hne, Nat.pow_add]
    exact Nat.mul_le_mul_right _ h1
  have hi : (a * 2 ^ k).log2 < 53 + k := by
    rw [Nat.log2_lt hne, Nat.pow_add]
    exact (Nat.mul_lt_mul_right (Nat.two_pow_pos k)).mpr h2
  omega

/-- significand `a` (normal unless the exponent field `k` is 0) times `2^k`, over any denominator: the bits
are `k` and `a` themselves -/
theorem nbRaw_exact (a k den : Nat) (hden : 0 < den) (ha : a < 2 ^ 53) (hk : 0 < k → 2 ^ 52 ≤ a) :
    nbRaw (a * 2 ^ k * den) den = k * 2 ^ 52 + a := by
  have hs : (a * 2 ^ k).log2 - 52 = k := by
    by_cases h52 : 2 ^ 52 ≤ a
    · rw [log2_shift a k h52 ha]
      omega
    · obtain rfl : k = 0 := Nat.eq_zero_of_not_pos (fun h => h52 (hk h))
      rw [Nat.pow_zero, Nat.mul_one]
      by_cases ha0 : a = 0
      · subst ha0; simp
      · have := (Nat.log2_lt ha0).mpr (show a < 2 ^ 52 by omega)
        omega
  unfold nbRaw
  rw [Nat.mul_div_cancel _ hden, hs, Nat.mul_assoc a, Nat.mul_comm (2 ^ k) den,
    divRoundHalfEven_exact a _ (Nat.mul_pos hden (Nat.two_pow_pos k))]

/-! ### `round(x, n)` cannot overflow -/

/-- `|max double| * 2^1074` -/
def maxVal : Nat := (2 ^ 53 - 1) * 2 ^ 2045

theorem magVal_maxMag : Dbl.magVal (infMag - 1) = maxVal := by decide +kernel

theorem roundMag_finite (n mag : Nat) (h : mag < infMag) : roundMag n mag < infMag := by
  unfold roundMag
  rw [if_neg (by omega)]
  have hT : 0 < 10 ^ n := Nat.pow_pos (by omega)
  have h1 : Dbl.magVal mag ≤ maxVal := by
    rw [← magVal_maxMag]; exact magVal_mono _ _ (by omega)
  -- the largest finite double is an integer, `(2^53 - 1) * 2^971`
  have e : (2 ^ 53 - 1) * 2 ^ 971 * 10 ^ n * 2 ^ 1074 = maxVal * 10 ^ n := by
    unfold maxVal
    rw [show (2 : Nat) ^ 2045 = 2 ^ 971 * 2 ^ 1074 from Nat.pow_add 2 971 1074]
    generalize 2 ^ 53 - 1 = a
    generalize 2 ^ 971 = b
    generalize 2 ^ 1074 = c
    generalize 10 ^ n = d
    ac_rfl
  have h2 : divRoundHalfEven (Dbl.magVal mag * 10 ^ n) (2 ^ 1074) ≤ (2 ^ 53 - 1) * 2 ^ 971 * 10 ^ n := by
    apply rhe_le_of_le_mul _ _ _ (Nat.two_pow_pos 1074)
    rw [e]
    exact Nat.mul_le_mul_right _ h1
  have h3 := nearestBits_mono _ _ (10 ^ n) (by omega) h2
  -- and converts to itself, whatever the denominator
  have h4 : nearestBits ((2 ^ 53 - 1) * 2 ^ 971 * 10 ^ n) (10 ^ n) = infMag - 1 := by
    rw [nearestBits_eq _ _ (by omega), e, maxVal, nbRaw_exact _ 2045 _ hT (by omega) (fun _ => by omega)]
    decide +kernel
  simp only at h3 ⊢
  have : 0 < infMag := by decide +kernel
  omega

/-! ### the order on doubles -/

namespace Dbl

theorem le_def (a b : Dbl) : a ≤ b ↔ (a.isNaN = false ∧ b.isNaN = false ∧ a.key ≤ b.key) := Iff.rfl

theorem lt_def (a b : Dbl) : a < b ↔ (a.isNaN = false ∧ b.isNaN = false ∧ a.key < b.key) := Iff.rfl

theorem isNaN_false_iff (a : Dbl) : a.isNaN = false ↔ a.mag ≤ infMag := by
  unfold isNaN
  simp

theorem le_refl (a : Dbl) (h : a.isNaN = false) : a ≤ a := by
  rw [le_def]; exact ⟨h, h, Int.le_refl _⟩

theorem le_trans (a b c : Dbl) (h1 : a ≤ b) (h2 : b ≤ c) : a ≤ c := by
  rw [le_def] at *
  exact ⟨h1.1, h2.2.1, Int.le_trans h1.2.2 h2.2.2⟩

theorem le_total (a b : Dbl) (ha : a.isNaN = false) (hb : b.isNaN = false) : a ≤ b ∨ b ≤ a := by
  simp only [le_def, ha, hb, true_and]
  omega

theorem le_iff_exact (a b : Dbl) (ha : a.isFinite = true) (hb : b.isFinite = true) :
    a ≤ b ↔ a.exact ≤ b.exact := by
  have ha' : a.mag < infMag := by simpa [isFinite] using ha
  have hb' : b.mag < infMag := by simpa [isFinite] using hb
  have na : a.isNaN = false := (isNaN_false_iff a).mpr (by omega)
  have nb : b.isNaN = false := (isNaN_false_iff b).mpr (by omega)
  simp only [le_def, na, nb, true_and, key, exact]
  have z := magVal_zero
  have i1 := magVal_le_iff a.mag b.mag
  have i2 := magVal_le_iff b.mag a.mag
  have i3 := magVal_le_iff a.mag 0
  have i4 := magVal_le_iff b.mag 0
  rw [z] at i3 i4
  cases a.neg <;> cases b.neg <;> simp only [if_true, if_false, Bool.false_eq_true] <;> omega

end Dbl

/-- `x ↦ (sign x, g |x|)` is non-decreasing when `g` is non-decreasing on magnitudes and fixes 0 -/
theorem Dbl.signed_mono (g : Nat → Nat) (hg : ∀ m m', m ≤ m' → m' ≤ infMag → g m ≤ g m') (hg0 : g 0 = 0)
    (hgi : ∀ m, m ≤ infMag → g m ≤ infMag) (a b : Dbl) (h : a ≤ b) :
    (⟨a.neg, g a.mag⟩ : Dbl) ≤ ⟨b.neg, g b.mag⟩ := by
  rw [Dbl.le_def] at h
  obtain ⟨ha, hb, hk⟩ := h
  obtain ⟨na, ma⟩ := a
  obtain ⟨nb, mb⟩ := b
  rw [Dbl.isNaN_false_iff] at ha hb
  simp only at ha hb
  rw [Dbl.le_def]
  refine ⟨(Dbl.isNaN_false_iff _).mpr (hgi ma ha), (Dbl.isNaN_false_iff _).mpr (hgi mb hb), ?_⟩
  have m1 := hg ma mb
  have m2 := hg mb ma
  have m5 := hg ma 0
  have m6 := hg mb 0
  rw [hg0] at m5 m6
  have hinf : (0 : Nat) ≤ infMag := Nat.zero_le _
  simp only [Dbl.key] at hk ⊢
  cases na <;> cases nb <;> simp only [if_true, if_false, Bool.false_eq_true] at hk ⊢
  · have := m1 (by omega) hb; omega
  · have := m5 (by omega) hinf
    have := m6 (by omega) hinf
    omega
  · omega
  · have := m2 (by omega) ha; omega

theorem pyRoundD_notNaN (n : Nat) (x : Dbl) (h : x.isNaN = false) : (pyRoundD n x).isNaN = false := by
  rw [Dbl.isNaN_false_iff] at *
  exact roundMag_le_inf n x.mag h

theorem pyRoundD_mono (n : Nat) (a b : Dbl) (h : a ≤ b) : pyRoundD n a ≤ pyRoundD n b :=
  Dbl.signed_mono (roundMag n) (fun m m' hm _ => roundMag_mono n m m' hm) (roundMag_zero n) (roundMag_le_inf n)
    a b h

theorem pyRoundD_finite (n : Nat) (x : Dbl) (h : x.isFinite = true) : (pyRoundD n x).isFinite = true := by
  simp only [Dbl.isFinite, decide_eq_true_eq] at h
  simp only [Dbl.isFinite, pyRoundD]
  exact decide_eq_true (roundMag_finite n x.mag h)

/-! ### gate, rounding and clamp on doubles, as one equation -/

theorem finishD_eq (uniform ignore : Bool) (places : Nat) (L U raw : Dbl) :
    finishD uniform ignore places L U raw =
      if ignore = true ∨ (L ≤ raw ∧ raw ≤ U) then
        .ok (if uniform = true then uniformPostD ignore places L U raw else raw)
      else .limit := by
  unfold finishD
  rw [gate_eq]
  by_cases hc : ignore = true ∨ (L ≤ raw ∧ raw ≤ U)
  · rw [if_pos hc, if_pos hc]
    cases uniform <;> rfl
  · rw [if_neg hc, if_neg hc]

/-- Python's `min(max(v, L), U)` on doubles is not NaN and has the key of the nearest point of `[L, U]` -/
theorem clampD_key (L U v : Dbl) (hLU : L ≤ U) (hv : v.isNaN = false) :
    (clamp L U v).isNaN = false ∧ (clamp L U v).key = min U.key (max L.key v.key) := by
  obtain ⟨hL, hU, hk⟩ := hLU
  unfold clamp
  simp only [GT.gt, Dbl.lt_def, hL, hU, hv, true_and]
  by_cases h1 : v.key < L.key
  · simp only [h1, if_true, hL, true_and]
    split
    · exact ⟨hU, by omega⟩
    · exact ⟨hL, by omega⟩
  · simp only [h1, if_false, hv, true_and]
    split
    · exact ⟨hU, by omega⟩
    · exact ⟨hv, by omega⟩

theorem clampD_mem (L U v : Dbl) (hLU : L ≤ U) (hv : v.isNaN = false) :
    L ≤ clamp L U v ∧ clamp L U v ≤ U := by
  obtain ⟨n, k⟩ := clampD_key L U v hLU hv
  have hk := hLU.2.2
  exact ⟨⟨hLU.1, n, by omega⟩, ⟨n, hLU.2.1, by omega⟩⟩

theorem clampD_mono (L U v w : Dbl) (hLU : L ≤ U) (h : v ≤ w) : clamp L U v ≤ clamp L U w := by
  obtain ⟨n1, k1⟩ := clampD_key L U v hLU h.1
  obtain ⟨n2, k2⟩ := clampD_key L U w hLU h.2.1
  have hvw := h.2.2
  exact ⟨n1, n2, by omega⟩

end AF.Prior
