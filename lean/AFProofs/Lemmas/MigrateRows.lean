import AFProofs.Lemmas.Migrate
import AFModel.MigrateRows

/-! The row-level migration model `AFModel/MigrateRows.lean`: forgetting the rows commutes with every layer
(statements, transactions, opens); after the loop the rows are the old rows rewritten by the
successful statements (`rowsOf_runStmtsR`), so that questions about cells become questions about one row and one
log (`cell_tracked`, `new_column_null`). Core Lean only. -/

namespace AF.Migrate

/-! ### forgetting the rows gives the name-level model -/

theorem schemaOf_cons (T : TableR) (d : Data) : schemaOf (T :: d) = (T.name, T.cols) :: schemaOf d := rfl

theorem schemaOf_append (d e : Data) : schemaOf (d ++ e) = schemaOf d ++ schemaOf e := by
  simp [schemaOf]

theorem colsOf_schemaOf (d : Data) (t : String) : colsOf (schemaOf d) t = (findT d t).map (·.cols) := by
  induction d with
  | nil => rfl
  | cons T rest ih =>
    rw [schemaOf_cons]
    by_cases h : T.name = t
    · simp [colsOf, findT, h]
    · simp [colsOf, findT, h, ih]

theorem schemaOf_mapT (d : Data) (t : String) (f : TableR → TableR) (g : List String → List String)
    (hn : ∀ T, (f T).name = T.name) (hc : ∀ T, (f T).cols = g T.cols) :
    schemaOf (mapT d t f) = mapTable (schemaOf d) t g := by
  induction d with
  | nil => rfl
  | cons T rest ih =>
    by_cases h : T.name = t
    · simp [mapT, mapTable, schemaOf_cons, h, hn, hc]
    · simp [mapT, mapTable, schemaOf_cons, h, ih]

theorem applyStmtR_schema (d : Data) (st : Stmt) :
    (applyStmtR d st).map schemaOf = applyStmt (schemaOf d) st := by
  cases st with
  | createTable t cols =>
    simp only [applyStmtR, applyStmt, colsOf_schemaOf]
    cases findT d t with
    | none => simp [schemaOf]
    | some T => rfl
  | addColumn t c =>
    simp only [applyStmtR, applyStmt, colsOf_schemaOf]
    cases findT d t with
    | none => rfl
    | some T => simp [apply_ite, schemaOf_mapT d t (TableR.addCol c) (· ++ [c]) (fun _ => rfl) (fun _ => rfl)]
  | renameColumn t a b =>
    simp only [applyStmtR, applyStmt, colsOf_schemaOf]
    cases findT d t with
    | none => rfl
    | some T =>
      dsimp only [Option.map_some]
      by_cases h : a ∈ T.cols ∧ ¬b ∈ T.cols
      · rw [if_pos h, if_pos h, Option.map_some,
          schemaOf_mapT d t (TableR.renameCol a b) (renameIn a b) (fun _ => rfl) (fun _ => rfl)]
      · rw [if_neg h, if_neg h]; rfl
  | dropColumn t c =>
    simp only [applyStmtR, applyStmt, colsOf_schemaOf]
    cases findT d t with
    | none => rfl
    | some T =>
      dsimp only [Option.map_some]
      by_cases h : c ∈ T.cols ∧ 1 < T.cols.length
      · rw [if_pos h, if_pos h, Option.map_some,
          schemaOf_mapT d t (TableR.dropCol c) (·.filter (· ≠ c)) (fun _ => rfl) (fun _ => rfl)]
      · rw [if_neg h, if_neg h]; rfl

theorem runStmtsR_schema (d : Data) (l : List Stmt) :
    schemaOf (runStmtsR d l).1 = (runStmts (schemaOf d) l).1 ∧ (runStmtsR d l).2 = (runStmts (schemaOf d) l).2 := by
  induction l generalizing d with
  | nil => exact ⟨rfl, rfl⟩
  | cons st rest ih =>
    simp only [runStmtsR, runStmts, ← applyStmtR_schema d st]
    cases applyStmtR d st with
    | none => exact ⟨(ih d).1, congrArg ((st, false) :: ·) (ih d).2⟩
    | some d' => exact ⟨(ih d').1, congrArg ((st, true) :: ·) (ih d').2⟩

theorem runStmtsR_attempted (d : Data) (l : List Stmt) : (runStmtsR d l).2.map (·.1) = l := by
  rw [(runStmtsR_schema d l).2]
  exact runStmts_attempted _ l

theorem RDb.proj_work (db : RDb) : db.proj.work = db.work.store := by
  obtain ⟨c, p⟩ := db
  cases p <;> rfl

theorem RDb.proj_ddl (db : RDb) (f : RStore → RStore) (g : Store → Store) (h : ∀ w, (f w).store = g w.store) :
    (db.ddl f).proj = db.proj.ddl g := by
  obtain ⟨c, p⟩ := db
  cases p <;> simp [RDb.ddl, Db.ddl, RDb.proj, h]

theorem RDb.proj_dml (db : RDb) (f : RStore → RStore) (g : Store → Store) (h : ∀ w, (f w).store = g w.store) :
    (db.dml f).proj = db.proj.dml g := by
  obtain ⟨c, p⟩ := db
  cases p <;> simp [RDb.dml, Db.dml, RDb.proj, RDb.work, Db.work, h]

theorem RDb.proj_commit (db : RDb) : db.commit.proj = db.proj.commit := by
  obtain ⟨c, p⟩ := db
  cases p <;> rfl

theorem RDb.proj_close (db : RDb) : db.close.store = db.proj.close := rfl

theorem initRevisionTableR_proj (db : RDb) : (initRevisionTableR db).proj = initRevisionTable db.proj := by
  simp only [initRevisionTableR, initRevisionTable]
  rw [RDb.proj_dml _ _ (fun w => { w with rev := .row none }) (fun _ => rfl),
    RDb.proj_ddl _ _ (fun w => { w with rev := .empty }) (fun _ => rfl)]

theorem work_rev (db : RDb) : db.proj.work.rev = db.work.rev := by
  rw [RDb.proj_work]; rfl

theorem readRevisionR_proj (db : RDb) :
    (readRevision db.proj).1 = (readRevisionR db).1.proj ∧ (readRevision db.proj).2 = (readRevisionR db).2 := by
  simp only [readRevision, readRevisionR, work_rev]
  cases db.work.rev with
  | noTable => exact ⟨(initRevisionTableR_proj db).symm, rfl⟩
  | empty => exact ⟨rfl, rfl⟩
  | row r => exact ⟨rfl, rfl⟩

theorem setRowR_store (u : Bool) (id : String) (w : RStore) : (setRowR u id w).store = setRow u id w.store := by
  obtain ⟨d, rev⟩ := w
  cases rev <;> cases u <;> rfl

theorem writeRevisionR_proj (cfg : Cfg) (db : RDb) (id : String) :
    (writeRevisionR cfg db id).proj = writeRevision cfg db.proj id := by
  simp only [writeRevisionR, writeRevision, work_rev]
  cases db.work.rev <;>
    simp only [RDb.proj_dml _ _ (setRow cfg.stampUpsert id) (setRowR_store _ _), initRevisionTableR_proj]

theorem runDdl_proj (db : RDb) (l : List Stmt) :
    db.proj.ddl (fun w => { w with schema := (runStmts db.proj.work.schema l).1 })
      = (db.ddl fun w => { w with data := (runStmtsR db.work.data l).1 }).proj ∧
    (runStmts db.proj.work.schema l).2 = (runStmtsR db.work.data l).2 := by
  have hw : db.proj.work.schema = schemaOf db.work.data := by rw [RDb.proj_work]; rfl
  have hs := runStmtsR_schema db.work.data l
  rw [hw, ← hs.1, ← hs.2]
  exact ⟨(RDb.proj_ddl db _ _ fun _ => rfl).symm, rfl⟩

theorem migrateR_proj (cfg : Cfg) (tbl : Table) (db : RDb) :
    migrate cfg tbl db.proj = ((migrateR cfg tbl db).1.proj, (migrateR cfg tbl db).2) := by
  obtain ⟨h1, h2⟩ := readRevisionR_proj db
  simp only [migrate, migrateR]
  rw [h1, h2]
  split
  · rfl
  · obtain ⟨hd, hl⟩ := runDdl_proj (readRevisionR db).1 (stmtsOf (getSteps tbl (readRevisionR db).2))
    rw [hd, hl, ← writeRevisionR_proj]
    cases cfg.migrateCommits
    · rfl
    · simp only [if_true, RDb.proj_commit]

theorem emptyData_schema (orm : Schema) : schemaOf (emptyData orm) = orm := by
  induction orm with
  | nil => rfl
  | cons p rest ih =>
    simp only [emptyData, List.map_cons, schemaOf_cons] at ih ⊢
    rw [ih]

theorem openDatabaseR_proj (cfg : Cfg) (tbl : Table) (orm : Schema) (file : Option RStore) :
    openDatabase cfg tbl orm (file.map RStore.store) =
      ((openDatabaseR cfg tbl orm file).1.proj, (openDatabaseR cfg tbl orm file).2) := by
  cases file with
  | some s => exact migrateR_proj cfg tbl { committed := s, pending := none }
  | none =>
    simp only [Option.map_none, openDatabase, openDatabaseR]
    have hp : ({ committed := { schema := orm, rev := .noTable }, pending := none } : Db)
        = ({ committed := { data := emptyData orm, rev := .noTable }, pending := none } : RDb).proj := by
      simp [RDb.proj, RStore.store, emptyData_schema]
    rw [hp, ← writeRevisionR_proj, ← RDb.proj_commit]
    cases cfg.createStamps <;> rfl

theorem sessionR_proj (cfg : Cfg) (tbl : Table) (orm : Schema) (file : Option RStore) (c : Bool) :
    session cfg tbl orm (file.map RStore.store) c =
      ((sessionR cfg tbl orm file c).1.store, (sessionR cfg tbl orm file c).2) := by
  simp only [session, sessionR, openDatabaseR_proj]
  cases c
  · rfl
  · simp only [if_true, ← RDb.proj_commit]; rfl

/-! ### closed forms of an open by the repaired code -/

theorem sessionR_fixed (tbl : Table) (orm : Schema) (hne : tbl.steps ≠ []) (s : RStore) (c : Bool) :
    sessionR Cfg.fixed tbl orm (some s) c =
      let todo := getSteps tbl (ridOf s.rev)
      let r := runStmtsR s.data (stmtsOf todo)
      ({ data := r.1, rev := if todo.isEmpty then s.rev else .row (some (latestId tbl)) }, r.2) := by
  obtain ⟨d, rev⟩ := s
  have h0 := getSteps_none_isEmpty_false tbl hne
  cases rev with
  | row r =>
    cases h1 : getSteps tbl r <;> cases c <;>
      simp [sessionR, openDatabaseR, migrateR, readRevisionR, writeRevisionR, setRowR, ridOf, stmtsOf, runStmtsR,
        RDb.work, RDb.ddl, RDb.dml, RDb.commit, RDb.close, Cfg.fixed, h1]
  | _ =>
    cases c <;>
      simp [sessionR, openDatabaseR, migrateR, readRevisionR, initRevisionTableR, writeRevisionR, setRowR, ridOf,
        RDb.work, RDb.ddl, RDb.dml, RDb.commit, RDb.close, Cfg.fixed, h0]

theorem sessionR_fixed_fresh (tbl : Table) (orm : Schema) (c : Bool) :
    sessionR Cfg.fixed tbl orm none c = ({ data := emptyData orm, rev := .row (some (latestId tbl)) }, []) := by
  cases c <;>
    simp [sessionR, openDatabaseR, writeRevisionR, initRevisionTableR, setRowR, RDb.work, RDb.ddl, RDb.dml,
      RDb.commit, RDb.close, Cfg.fixed]

/-- an interrupted open leaves the effect of the statements that were durable -/
theorem interruptedR_durable (tbl : Table) (s : RStore) (j : Nat) :
    ∃ l, (∀ st ∈ l, st ∈ stmtsOf tbl.steps) ∧ (interruptedR tbl s j).1.data = (runStmtsR s.data l).1 ∧
      interruptedDurableLog tbl s j = (runStmtsR s.data l).2 := by
  obtain ⟨d, rev⟩ := s
  cases rev with
  | noTable => exact ⟨[], nofun, rfl, rfl⟩
  | _ => exact ⟨_, fun st hst => stmtsOf_subset (getSteps_subset tbl _) (List.mem_of_mem_take hst), rfl, rfl⟩

/-! ### one statement on tables with rows -/

theorem findT_mapT_same (d : Data) (t : String) (f : TableR → TableR) (hn : ∀ T, (f T).name = T.name) :
    findT (mapT d t f) t = (findT d t).map f := by
  induction d with
  | nil => rfl
  | cons T rest ih =>
    by_cases h : T.name = t
    · simp [mapT, findT, h, hn]
    · simp [mapT, findT, h, ih]

theorem findT_mapT_other (d : Data) (t t' : String) (f : TableR → TableR) (hn : ∀ T, (f T).name = T.name)
    (h : t' ≠ t) : findT (mapT d t f) t' = findT d t' := by
  induction d with
  | nil => rfl
  | cons T rest ih =>
    by_cases hT : T.name = t
    · simp [mapT, findT, hT, hn, Ne.symm h]
    · simp only [mapT, findT, hT, if_false, ih]

theorem findT_append (d e : Data) (t : String) : findT (d ++ e) t = (findT d t).orElse fun _ => findT e t := by
  induction d with
  | nil => rfl
  | cons T rest ih =>
    by_cases h : T.name = t
    · simp [findT, h]
    · simp [findT, h, ih]

theorem findT_mem (d : Data) (t : String) (T : TableR) (h : findT d t = some T) : T ∈ d ∧ T.name = t := by
  induction d with
  | nil => simp [findT] at h
  | cons T0 rest ih =>
    by_cases hn : T0.name = t
    · simp [findT, hn] at h
      subst h
      exact ⟨List.mem_cons_self, hn⟩
    · simp [findT, hn] at h
      exact ⟨List.mem_cons_of_mem _ (ih h).1, (ih h).2⟩

theorem applyStmtR_eq_some {d d' : Data} {st : Stmt} (h : applyStmtR d st = some d') :
    match st with
    | .addColumn t c => ∃ T, findT d t = some T ∧ c ∉ T.cols ∧ d' = mapT d t (TableR.addCol c)
    | .createTable t cols => findT d t = none ∧ d' = d ++ [{ name := t, cols := cols, rows := [] }]
    | .renameColumn t a b =>
      ∃ T, findT d t = some T ∧ (a ∈ T.cols ∧ b ∉ T.cols) ∧ d' = mapT d t (TableR.renameCol a b)
    | .dropColumn t c =>
      ∃ T, findT d t = some T ∧ (c ∈ T.cols ∧ 1 < T.cols.length) ∧ d' = mapT d t (TableR.dropCol c) := by
  cases st <;> simp only [applyStmtR] at h <;> split at h <;> try split at h
  all_goals simp_all

/-! ### rows follow the successful statements -/

theorem onRow_add (t t' c : String) :
    Stmt.onRow t (.addColumn t' c) = fun r => if t' = t then rowAdd c r else r := rfl

theorem onRow_create (t t' : String) (cols : List String) :
    Stmt.onRow t (.createTable t' cols) = fun r => r := rfl

theorem onRow_rename (t t' a b : String) :
    Stmt.onRow t (.renameColumn t' a b) = fun r => if t' = t then rowRename a b r else r := rfl

theorem onRow_drop (t t' c : String) :
    Stmt.onRow t (.dropColumn t' c) = fun r => if t' = t then rowDrop c r else r := rfl

theorem rowsOf_mapT (d : Data) (t t' : String) (f : TableR → TableR) (ρ : Row → Row)
    (hn : ∀ T, (f T).name = T.name) (hr : ∀ T, (f T).rows = T.rows.map ρ) :
    rowsOf (mapT d t' f) t = (rowsOf d t).map fun r => if t' = t then ρ r else r := by
  by_cases ht : t' = t
  · subst ht
    simp only [rowsOf, findT_mapT_same d t' f hn, if_true]
    cases findT d t' <;> simp [hr]
  · simp [rowsOf, findT_mapT_other d t' t f hn (Ne.symm ht), ht]

theorem rowsOf_applyStmtR (d d' : Data) (st : Stmt) (t : String) (h : applyStmtR d st = some d') :
    rowsOf d' t = (rowsOf d t).map (st.onRow t) := by
  have h := applyStmtR_eq_some h
  cases st with
  | createTable t' cols =>
    obtain ⟨-, rfl⟩ := h
    rw [onRow_create, List.map_id']
    simp only [rowsOf, findT_append]
    cases findT d t with
    | some T => rfl
    | none => by_cases ht : t' = t <;> simp [findT, ht]
  | addColumn t' c =>
    obtain ⟨T, -, -, rfl⟩ := h
    rw [onRow_add]
    exact rowsOf_mapT d t t' _ (rowAdd c) (fun _ => rfl) (fun _ => rfl)
  | renameColumn t' a b =>
    obtain ⟨T, -, -, rfl⟩ := h
    rw [onRow_rename]
    exact rowsOf_mapT d t t' _ (rowRename a b) (fun _ => rfl) (fun _ => rfl)
  | dropColumn t' c =>
    obtain ⟨T, -, -, rfl⟩ := h
    rw [onRow_drop]
    exact rowsOf_mapT d t t' _ (rowDrop c) (fun _ => rfl) (fun _ => rfl)

theorem rowsOf_runStmtsR (d : Data) (l : List Stmt) (t : String) :
    rowsOf (runStmtsR d l).1 t = (rowsOf d t).map (logOnRow t (runStmtsR d l).2) := by
  induction l generalizing d with
  | nil => simp [runStmtsR, logOnRow]
  | cons st rest ih =>
    simp only [runStmtsR]
    cases hd : applyStmtR d st with
    | none =>
      simp only [logOnRow, Bool.false_eq_true, if_false]
      exact ih d
    | some d' =>
      simp only [logOnRow, if_true]
      rw [ih d', rowsOf_applyStmtR d d' st t hd, List.map_map]
      rfl

/-! ### well-formed rows stay well-formed -/

theorem wfData_iff (d : Data) : wfData d = true ↔ ∀ T ∈ d, ∀ r ∈ T.rows, keysOf r = T.cols := by
  simp [wfData, List.all_eq_true]

theorem keysOf_of_mem_rowsOf {d : Data} {t : String} {r : Row} (hd : wfData d = true) (hr : r ∈ rowsOf d t) :
    ∃ T, findT d t = some T ∧ keysOf r = T.cols := by
  simp only [rowsOf] at hr
  cases hf : findT d t with
  | none => simp [hf] at hr
  | some T => exact ⟨T, rfl, (wfData_iff d).mp hd T (findT_mem d t T hf).1 r (by simpa [hf] using hr)⟩

theorem keysOf_rowAdd (c : String) (r : Row) : keysOf (rowAdd c r) = keysOf r ++ [c] := by
  simp [keysOf, rowAdd]

theorem keysOf_rowRename (a b : String) (r : Row) : keysOf (rowRename a b r) = renameIn a b (keysOf r) := by
  simp [keysOf, rowRename, renameIn, List.map_map, Function.comp_def]

theorem keysOf_rowDrop (c : String) (r : Row) : keysOf (rowDrop c r) = (keysOf r).filter (· ≠ c) := by
  simp [keysOf, rowDrop, List.filter_map, Function.comp_def]

theorem wf_mapT (d : Data) (t : String) (f : TableR → TableR) (g : List String → List String) (ρ : Row → Row)
    (hd : wfData d = true) (hc : ∀ T, (f T).cols = g T.cols) (hr : ∀ T, (f T).rows = T.rows.map ρ)
    (hk : ∀ r, keysOf (ρ r) = g (keysOf r)) : wfData (mapT d t f) = true := by
  rw [wfData_iff] at hd ⊢
  induction d with
  | nil => simp [mapT]
  | cons T rest ih =>
    have hrest : ∀ T ∈ rest, ∀ r ∈ T.rows, keysOf r = T.cols := fun X hX => hd X (List.mem_cons_of_mem _ hX)
    by_cases h : T.name = t
    · simp only [mapT, h, if_true, List.mem_cons]
      rintro X (rfl | hX)
      · intro r hr'
        rw [hr, List.mem_map] at hr'
        obtain ⟨r0, hr0, rfl⟩ := hr'
        rw [hk, hc, hd T List.mem_cons_self r0 hr0]
      · exact hrest X hX
    · simp only [mapT, h, if_false, List.mem_cons]
      rintro X (rfl | hX)
      · exact hd _ List.mem_cons_self
      · exact ih hrest X hX

theorem wf_applyStmtR (d d' : Data) (st : Stmt) (hd : wfData d = true) (h : applyStmtR d st = some d') :
    wfData d' = true := by
  have h := applyStmtR_eq_some h
  cases st with
  | createTable t cols =>
    obtain ⟨-, rfl⟩ := h
    rw [wfData_iff] at hd ⊢
    intro X hX
    rcases List.mem_append.mp hX with hX | hX
    · exact hd X hX
    · rw [List.mem_singleton.mp hX]
      exact fun r hr => nomatch hr
  | addColumn t c =>
    obtain ⟨T, -, -, rfl⟩ := h
    exact wf_mapT d t _ (· ++ [c]) (rowAdd c) hd (fun _ => rfl) (fun _ => rfl) (keysOf_rowAdd c)
  | renameColumn t a b =>
    obtain ⟨T, -, -, rfl⟩ := h
    exact wf_mapT d t _ (renameIn a b) (rowRename a b) hd (fun _ => rfl) (fun _ => rfl) (keysOf_rowRename a b)
  | dropColumn t c =>
    obtain ⟨T, -, -, rfl⟩ := h
    exact wf_mapT d t _ (·.filter (· ≠ c)) (rowDrop c) hd (fun _ => rfl) (fun _ => rfl) (keysOf_rowDrop c)

theorem wf_runStmtsR (d : Data) (l : List Stmt) (hd : wfData d = true) : wfData (runStmtsR d l).1 = true := by
  induction l generalizing d with
  | nil => exact hd
  | cons st rest ih =>
    simp only [runStmtsR]
    cases h : applyStmtR d st with
    | none => exact ih d hd
    | some d' => exact ih d' (wf_applyStmtR d d' st hd h)

theorem wf_emptyData (orm : Schema) : wfData (emptyData orm) = true := by
  rw [wfData_iff]
  intro T hT r hr
  simp only [emptyData, List.mem_map] at hT
  obtain ⟨p, _, rfl⟩ := hT
  simp at hr

/-! ### cells -/

theorem cellOf_eq_none_iff (r : Row) (c : String) : cellOf r c = none ↔ c ∉ keysOf r := by
  induction r with
  | nil => simp [cellOf, keysOf]
  | cons kv rest ih =>
    simp only [keysOf] at ih
    by_cases hk : kv.1 = c
    · simp [cellOf, keysOf, hk]
    · simp [cellOf, keysOf, hk, ih, Ne.symm hk]

theorem cellOf_mem (r : Row) (c : String) (v : Cell) (h : cellOf r c = some v) : c ∈ keysOf r :=
  Decidable.by_contra fun hn => by simp [(cellOf_eq_none_iff r c).mpr hn] at h

theorem cellOf_of_mem (r : Row) (c : String) (h : c ∈ keysOf r) : ∃ v, cellOf r c = some v :=
  Option.ne_none_iff_exists'.mp fun hn => (cellOf_eq_none_iff r c).mp hn h

theorem cellOf_append (r x : Row) (c : String) :
    cellOf (r ++ x) c = (cellOf r c).orElse fun _ => cellOf x c := by
  induction r with
  | nil => rfl
  | cons kv rest ih =>
    by_cases hk : kv.1 = c
    · simp [cellOf, hk]
    · simp [cellOf, hk, ih]

theorem cellOf_rowRename_other (a b c : String) (r : Row) (ha : c ≠ a) (hb : c ≠ b) :
    cellOf (rowRename a b r) c = cellOf r c := by
  induction r with
  | nil => rfl
  | cons kv rest ih =>
    simp only [rowRename, List.map_cons, cellOf] at ih ⊢
    rw [ih]
    by_cases hk : kv.1 = a
    · simp [hk, Ne.symm ha, Ne.symm hb]
    · simp [hk]

theorem cellOf_rowRename_target (a b : String) (r : Row) (hb : b ∉ keysOf r) :
    cellOf (rowRename a b r) b = cellOf r a := by
  induction r with
  | nil => rfl
  | cons kv rest ih =>
    simp only [keysOf, List.map_cons, List.mem_cons, not_or] at hb
    simp only [rowRename, List.map_cons, cellOf] at ih ⊢
    rw [ih hb.2]
    by_cases hk : kv.1 = a
    · simp [hk]
    · simp [hk, Ne.symm hb.1]

theorem cellOf_rowDrop_other (c c' : String) (r : Row) (h : c ≠ c') :
    cellOf (rowDrop c' r) c = cellOf r c := by
  induction r with
  | nil => rfl
  | cons kv rest ih =>
    simp only [rowDrop, List.filter_cons] at ih ⊢
    split
    · simp only [cellOf, ih]
    · rename_i hk
      have hk : kv.1 = c' := by simpa using hk
      rw [ih]
      simp [cellOf, hk, Ne.symm h]

theorem cellOf_rowRename_source (a b : String) (r : Row) (h : a ≠ b) : cellOf (rowRename a b r) a = none := by
  rw [cellOf_eq_none_iff, keysOf_rowRename]
  simp only [renameIn, List.mem_map, not_exists, not_and]
  intro x _
  split
  · exact Ne.symm h
  · assumption

theorem cellOf_rowDrop_same (c : String) (r : Row) : cellOf (rowDrop c r) c = none :=
  (cellOf_eq_none_iff _ c).mpr (by simp [keysOf_rowDrop])

/-- the guard of a successful `RENAME COLUMN a TO b`, read on a row of the table -/
theorem rename_target_fresh {d d' : Data} {t a b : String} {r : Row} (hd : wfData d = true)
    (h : applyStmtR d (.renameColumn t a b) = some d') (hr : r ∈ rowsOf d t) : b ∉ keysOf r := by
  obtain ⟨T, hT, hg, -⟩ := applyStmtR_eq_some h
  obtain ⟨T', hT', hk⟩ := keysOf_of_mem_rowsOf hd hr
  rw [hk, Option.some.inj (hT'.symm.trans hT)]
  exact hg.2

/-! ### values follow renames -/

theorem cellOf_onRow_track (d d' : Data) (st : Stmt) (t c c' : String) (r : Row) (v : Cell)
    (hd : wfData d = true) (h : applyStmtR d st = some d') (hr : r ∈ rowsOf d t)
    (hv : cellOf r c = some v) (ht : st.track t c = some c') :
    cellOf (st.onRow t r) c' = some v := by
  cases st with
  | addColumn t' x =>
    cases ht
    simp only [Stmt.onRow]
    split
    · rw [rowAdd, cellOf_append, hv]; rfl
    · exact hv
  | createTable t' cols =>
    cases ht
    exact hv
  | dropColumn t' x =>
    simp only [Stmt.track] at ht
    split at ht
    · cases ht
    · rename_i hg
      cases ht
      simp only [Stmt.onRow]
      split
      · rename_i htt
        rw [cellOf_rowDrop_other c x r fun e => hg ⟨htt, e⟩]; exact hv
      · exact hv
  | renameColumn t' a b =>
    have guard : t' = t → b ∉ keysOf r := fun e => rename_target_fresh hd (e ▸ h) hr
    simp only [Stmt.track] at ht
    split at ht <;> rename_i hg <;> simp only [Option.some.injEq] at ht <;> subst ht <;> simp only [Stmt.onRow]
    · rw [if_pos hg.1, cellOf_rowRename_target a b r (guard hg.1), ← hg.2]
      exact hv
    · split
      · rename_i htt
        rw [cellOf_rowRename_other a b c r (fun e => hg ⟨htt, e⟩) fun e => guard htt (e ▸ cellOf_mem r c v hv)]
        exact hv
      · exact hv

theorem cell_tracked (d : Data) (l : List Stmt) (t c c' : String) (hd : wfData d = true)
    (r : Row) (hr : r ∈ rowsOf d t) (v : Cell) (hv : cellOf r c = some v)
    (ht : logTrack t (runStmtsR d l).2 c = some c') :
    cellOf (logOnRow t (runStmtsR d l).2 r) c' = some v := by
  induction l generalizing d r c with
  | nil =>
    simp only [runStmtsR, logTrack, Option.some.injEq] at ht
    subst ht
    simpa [runStmtsR, logOnRow] using hv
  | cons st rest ih =>
    simp only [runStmtsR] at ht ⊢
    cases h : applyStmtR d st with
    | none =>
      simp only [h, logTrack, Bool.false_eq_true, if_false] at ht
      simp only [logOnRow, Bool.false_eq_true, if_false]
      exact ih d c hd r hr hv ht
    | some d' =>
      simp only [h, logTrack, if_true] at ht
      simp only [logOnRow, if_true]
      cases hm : st.track t c with
      | none => simp [hm] at ht
      | some c1 =>
        simp only [hm, Option.bind_some] at ht
        apply ih d' c1 (wf_applyStmtR d d' st hd h)
        · rw [rowsOf_applyStmtR d d' st t h]
          exact List.mem_map_of_mem hr
        · exact cellOf_onRow_track d d' st t c c1 r v hd h hr hv hm
        · exact ht

theorem logTrack_of_not_removed (t c : String) (log : Log) (h : ∀ p ∈ log, p.1.removes t c = false) :
    logTrack t log c = some c := by
  induction log with
  | nil => rfl
  | cons p rest ih =>
    obtain ⟨st, ok⟩ := p
    have hst : st.track t c = some c := by
      have hrem := h _ List.mem_cons_self
      cases st with
      | renameColumn t' a b =>
        exact if_neg fun ⟨h1, h2⟩ => by simp [Stmt.removes, h1, h2] at hrem
      | dropColumn t' c' =>
        exact if_neg fun ⟨h1, h2⟩ => by simp [Stmt.removes, h1, h2] at hrem
      | _ => rfl
    have := ih fun p hp => h p (List.mem_cons_of_mem _ hp)
    cases ok <;> simp [logTrack, hst, this]

theorem cell_preserved (d : Data) (l : List Stmt) (t c : String) (hd : wfData d = true)
    (hrem : ∀ st ∈ l, st.removes t c = false) (r : Row) (hr : r ∈ rowsOf d t) (v : Cell)
    (hv : cellOf r c = some v) :
    cellOf (logOnRow t (runStmtsR d l).2 r) c = some v :=
  cell_tracked d l t c c hd r hr v hv <| logTrack_of_not_removed t c _ fun p hp =>
    hrem p.1 (by rw [← runStmtsR_attempted d l]; exact List.mem_map_of_mem hp)

/-! ### new columns read NULL on old rows -/

/-- a row that reads nothing but `NULL` at `c` (no entry, or `NULL`) still does after any statement other than a
rename to `c` -/
theorem onRow_null (st : Stmt) (t c : String) (r : Row) (hren : ∀ a, st ≠ .renameColumn t a c)
    (h : ∀ v, cellOf r c = some v → v = none) : ∀ v, cellOf (st.onRow t r) c = some v → v = none := by
  cases st with
  | createTable t' cols => exact h
  | addColumn t' c' =>
    simp only [Stmt.onRow]
    split
    · intro v hv
      rw [rowAdd, cellOf_append] at hv
      cases hc : cellOf r c with
      | some v0 => rw [hc] at hv; exact h v (hc.trans hv)
      | none =>
        rw [hc] at hv
        simp only [Option.orElse_none, cellOf] at hv
        split at hv <;> cases hv
        rfl
    · exact h
  | renameColumn t' a b =>
    simp only [Stmt.onRow]
    split
    · rename_i htt
      have hcb : c ≠ b := fun e => hren a (by rw [htt, e])
      by_cases hca : c = a
      · subst hca
        rw [cellOf_rowRename_source c b r hcb]
        exact nofun
      · rw [cellOf_rowRename_other a b c r hca hcb]; exact h
    · exact h
  | dropColumn t' c' =>
    simp only [Stmt.onRow]
    split
    · by_cases hcc : c = c'
      · subst hcc
        rw [cellOf_rowDrop_same]
        exact nofun
      · rw [cellOf_rowDrop_other c c' r hcc]; exact h
    · exact h

theorem logOnRow_null (t c : String) (log : Log) (hren : ∀ p ∈ log, ∀ a, p.1 ≠ .renameColumn t a c) (r : Row)
    (h : ∀ v, cellOf r c = some v → v = none) : ∀ v, cellOf (logOnRow t log r) c = some v → v = none := by
  induction log generalizing r with
  | nil => exact h
  | cons p rest ih =>
    obtain ⟨st, ok⟩ := p
    have hrest := fun p hp => hren p (List.mem_cons_of_mem _ hp)
    cases ok
    · exact ih hrest r h
    · exact ih hrest _ (onRow_null st t c r (hren _ List.mem_cons_self) h)

theorem new_column_null (d : Data) (l : List Stmt) (t c : String) (hd : wfData d = true)
    (hnew : hasCol (schemaOf d) t c = false) (hren : ∀ st ∈ l, ∀ a, st ≠ .renameColumn t a c) :
    ∀ T, findT (runStmtsR d l).1 t = some T → c ∈ T.cols → ∀ r ∈ T.rows, cellOf r c = some none := by
  intro T hT hc r hr
  have hr' : r ∈ rowsOf (runStmtsR d l).1 t := by simpa [rowsOf, hT] using hr
  obtain ⟨T', hT', hk⟩ := keysOf_of_mem_rowsOf (wf_runStmtsR d l hd) hr'
  obtain ⟨v, hv⟩ := cellOf_of_mem r c (by rw [hk, Option.some.inj (hT'.symm.trans hT)]; exact hc)
  rw [rowsOf_runStmtsR, List.mem_map] at hr'
  obtain ⟨r0, hr0, rfl⟩ := hr'
  obtain ⟨T0, hT0, hk0⟩ := keysOf_of_mem_rowsOf hd hr0
  have h0 : ∀ v0, cellOf r0 c = some v0 → v0 = none := by
    intro v0 hv0
    have := cellOf_mem r0 c v0 hv0
    rw [hk0] at this
    simp [hasCol, colsOf_schemaOf, hT0, this] at hnew
  rw [hv, logOnRow_null t c _ (fun p hp => hren p.1 (by
    rw [← runStmtsR_attempted d l]; exact List.mem_map_of_mem hp)) r0 h0 v hv]

end AF.Migrate
