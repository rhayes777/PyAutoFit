import AFModel.Passing
import AFModel.WidthCfg
import AFModel.PassRoutes
import AFModel.PassPlace
import AFProofs.Lemmas.Persist
import AFProofs.Lemmas.SamplesConv
import AFProofs.Lemmas.WidthCfg
import AFProofs.Lemmas.PassRoutes
import Mathlib.Algebra.Order.Field.Basic

/-!
# C12 — prior passing keeps every inferred value on its own parameter

The new model is the old tree with each prior replaced, by identity, by the prior derived for it
(`AFModel/Passing.lean`). Identities are kept (`mapper_from_prior_means`, `mapper_from_uniform_floats`,
`replacing`) or renamed monotonically (`with_limits`), so structure, paths, count, sharing and fixed
values are preserved by C08's theorems about `renameIds`; the theorems here add: *which* prior each
parameter receives, that the order is kept, and that widths are non-negative.
-/

namespace AF.C12
open AF AF.WidthCfgL AF.PassRoutesL

variable {V V' : Type}

/-- The prior of the i-th parameter (id order) is derived from the i-th inferred value and from nothing
else; every place sharing that parameter receives it, because substitution is by identity. -/
theorem passed_prior_for_parameter (po : PassOps V) (mode : PassMode V) (t : Node V')
    (olds : List (PD V)) (cfgs : List (PCfg V)) (xs : List (V × V))
    (ho : olds.length = count t) (hc : cfgs.length = count t) (hx : xs.length = count t)
    (i : Nat) (hi : i < count t) :
    lookupArg (passArgs po mode t olds cfgs xs) ((uniqueIds t)[i]'hi) =
      some (derive po mode (olds[i]'(ho ▸ hi)) (cfgs[i]'(hc ▸ hi)) (xs[i]'(hx ▸ hi)).1 (xs[i]'(hx ▸ hi)).2) := by
  have hlen : (uniqueIds t).length = ((olds.zip (cfgs.zip xs)).map
      (fun (o, c, x) => derive po mode o c x.1 x.2)).length := by
    simp [List.length_zip, ho, hc, hx, count]
  rw [passArgs, lookup_zip_get (uniqueIds t) _ (nodup_uniqueIds t) hlen i hi (hlen ▸ hi)]
  simp

/-- Widths are never negative, whatever the inferred value, once the absolute width given or configured
is not and `abs` is non-negative. -/
theorem width_nonneg (po : PassOps V) (le : V → V → Prop) (zero : V)
    (habs : ∀ x, le zero (po.abs x)) (a r : Option V) (cfg : PCfg V) (mean : V)
    (ha : ∀ w, a = some w → le zero w) (hv : cfg.relative = false → le zero cfg.value) :
    le zero (passWidth po a r cfg mean) := by
  cases a with
  | some w => exact ha w rfl
  | none =>
    cases r with
    | some r => exact habs _
    | none =>
      show le zero (if cfg.relative then po.abs (po.mul cfg.value mean) else cfg.value)
      cases hrel : cfg.relative with
      | true => exact habs _
      | false => exact hv hrel

theorem means_centred (po : PassOps V) (a r nl) (old : PD V) (cfg : PCfg V) (x y : V) :
    (derive po (.means a r nl) old cfg x y).mean = x ∧
    (derive po (.means a r nl) old cfg x y).kind = "Gaussian" :=
  ⟨rfl, rfl⟩

theorem uniform_bounds (po : PassOps V) (b : V) (old : PD V) (cfg : PCfg V) (x y : V) :
    (derive po (.uniform b) old cfg x y).lo = po.sub x b ∧
    (derive po (.uniform b) old cfg x y).hi = po.add x b :=
  ⟨rfl, rfl⟩

/-! ### over an ordered field: the exact guards -/

section Field
variable {K : Type} [Field K] [LinearOrder K] [IsStrictOrderedRing K]

/-- real arithmetic (the two infinities are never used by a width) -/
def fieldPass (ninf pinf : K) : PassOps K :=
  { add := (· + ·), sub := (· - ·), mul := (· * ·), half := (· / 2), abs := fun x => |x|,
    max := max, min := min, negInf := ninf, posInf := pinf }

/-- No negative width for any inferred value, with the exact guards: a width given by the caller (`a`)
or by an absolute modifier is used as it stands; a relative width is `|r·x|`; `with_limits` on a
Gaussian prior gives `upper − lower`; bounded uniform priors are non-empty iff `b ≥ 0`. -/
theorem width_nonneg_ordered_field (ninf pinf : K) (old : PD K) (cfg : PCfg K) (x y : K) :
    (∀ r nl, 0 ≤ (derive (fieldPass ninf pinf) (.means none (some r) nl) old cfg x y).sigma) ∧
    (∀ a r nl, 0 ≤ (derive (fieldPass ninf pinf) (.means (some a) r nl) old cfg x y).sigma ↔ 0 ≤ a) ∧
    (∀ nl, cfg.relative = true → 0 ≤ (derive (fieldPass ninf pinf) (.means none none nl) old cfg x y).sigma) ∧
    (∀ nl, cfg.relative = false →
      (0 ≤ (derive (fieldPass ninf pinf) (.means none none nl) old cfg x y).sigma ↔ 0 ≤ cfg.value)) ∧
    (old.kind = "Gaussian" → (0 ≤ (derive (fieldPass ninf pinf) .withLimits old cfg x y).sigma ↔ x ≤ y)) ∧
    (∀ b, (derive (fieldPass ninf pinf) (.uniform b) old cfg x y).lo ≤
      (derive (fieldPass ninf pinf) (.uniform b) old cfg x y).hi ↔ 0 ≤ b) := by
  refine ⟨fun r nl => abs_nonneg (r * x), fun a r nl => Iff.rfl, fun nl h => ?_, fun nl h => ?_,
    fun h => ?_, fun b => ?_⟩
  · show 0 ≤ (if cfg.relative then |cfg.value * x| else cfg.value)
    rw [h]
    exact abs_nonneg _
  · show 0 ≤ (if cfg.relative then |cfg.value * x| else cfg.value) ↔ _
    rw [h]
    exact Iff.rfl
  · simp only [derive, h, beq_self_eq_true, if_true]
    exact sub_nonneg
  · show x - b ≤ x + b ↔ 0 ≤ b
    rw [sub_eq_add_neg, add_le_add_iff_left, neg_le_self_iff]

theorem relative_width_abs (ninf pinf : K) (r x : K) (cfg : PCfg K) :
    passWidth (fieldPass ninf pinf) none (some r) cfg x = |r| * |x| :=
  abs_mul r x

end Field

def intPass : PassOps Int :=
  { add := (· + ·), sub := (· - ·), mul := (· * ·), half := (· / 2), abs := fun x => (Int.natAbs x : Int),
    max := max, min := min, negInf := -1000000, posInf := 1000000 }

def t₀ : Node Int := .coll [("g", .model "P2" ["a", "b"] [("a", .prior 7), ("b", .prior 3)]), ("h", .prior 7)]

def args₀ := passArgs intPass (.means none (some 2) false) t₀
  [⟨"Uniform", 0, 10, 0, 0⟩, ⟨"Uniform", -5, 5, 0, 0⟩] [⟨true, 1, none⟩, ⟨false, 3, some (0, 100)⟩] [(-4, 0), (6, 0)]

/-- parameter order is [3, 7]: id 3 gets the value -4 (relative width |2·(-4)| = 8, old limits), id 7 gets 6 -/
example : lookupArg args₀ 3 = some ⟨"Gaussian", 0, 10, -4, 8⟩ := by rfl
example : lookupArg args₀ 7 = some ⟨"Gaussian", 0, 100, 6, 12⟩ := by rfl

/-! ## order is kept when ids are renamed monotonically (`with_limits`) -/

/-- ids are kept by `mapper_from_prior_means`, `mapper_from_uniform_floats` and `replacing`: the tree
(paths, count, order, sharing, fixed values) is literally unchanged -/
theorem ids_kept_tree_unchanged (t : Node V') : renameIds id t = t := renameIds_id t

/-- A renaming that is strictly increasing on the model's ids (old ids kept, or fresh ids handed out
in old-id order) keeps the parameter order. -/
theorem order_preserved (σ : Nat → Nat) (t : Node V')
    (hmono : ∀ i ∈ (walk t).map (·.2), ∀ j ∈ (walk t).map (·.2), i < j → σ i < σ j) :
    uniqueIds (renameIds σ t) = (uniqueIds t).map σ := by
  rw [uniqueIds, walk_ids_rename]
  exact sortDedup_map_mono σ _ hmono

theorem indexOf?_mono (l : List Nat) (hs : l.Pairwise (· < ·)) (i j a b : Nat) (hij : i < j)
    (hi : indexOf? l i = some a) (hj : indexOf? l j = some b) : a < b := by
  obtain ⟨ha, hai⟩ := List.getElem?_eq_some_iff.mp (getElem?_of_indexOf? l i a hi)
  obtain ⟨hb, hbj⟩ := List.getElem?_eq_some_iff.mp (getElem?_of_indexOf? l j b hj)
  rcases Nat.lt_trichotomy a b with h | rfl | h
  · exact h
  · omega
  · have := List.pairwise_iff_getElem.mp hs b a hb ha h
    omega

theorem freshSigma_strictMono (t : Node V') (base : Nat) (i j : Nat)
    (hi : i ∈ uniqueIds t) (hj : j ∈ uniqueIds t) (hij : i < j) :
    freshSigma t base i < freshSigma t base j := by
  obtain ⟨a, ha, _⟩ := indexOf?_some_of_mem (uniqueIds t) i hi
  obtain ⟨b, hb, _⟩ := indexOf?_some_of_mem (uniqueIds t) j hj
  have := indexOf?_mono (uniqueIds t) (sorted_sortDedup _) i j a b hij ha hb
  simp only [freshSigma, ha, hb]
  omega

/-- `with_limits` hands out fresh ids in old-id order, so it keeps the parameter order -/
theorem with_limits_order_preserved {V' : Type} (t : Node V') (base : Nat) :
    uniqueIds (renameIds (freshSigma t base) t) = (uniqueIds t).map (freshSigma t base) :=
  order_preserved _ t fun i hi j hj hij =>
    freshSigma_strictMono t base i j (mem_sortDedup.mpr hi) (mem_sortDedup.mpr hj) hij

/-! ## where the configuration of a place comes from (`AFModel/WidthCfg.lean`): looked up by the model,
from the generated tables, in the library's order -/

/-- one directory: the longest configured path the key ends with answers -/
theorem callCfg_longest_suffix (c : Config V) (key : Str) (v : CVal V) (h : callCfg c key = some v) :
    ∃ e ∈ c, e.val = v ∧ e.path <:+ key ∧ ∀ e' ∈ c, e'.path <:+ key → e'.path.length ≤ e.path.length := by
  obtain ⟨e, hf, hv⟩ := Option.map_eq_some_iff.mp h
  obtain ⟨hm, hp, hmax⟩ := find_desc_longest _ _ (desc_sortByLen c) e hf
  exact ⟨e, (mem_sortByLen e c).mp hm, hv, List.isSuffixOf_iff_suffix.mp hp, fun e' he' hs =>
    hmax e' ((mem_sortByLen e' c).mpr he') (List.isSuffixOf_iff_suffix.mpr hs)⟩

/-- `KeyError` exactly when no configured path is a suffix of the key -/
theorem callCfg_none_iff (c : Config V) (key : Str) :
    callCfg c key = none ↔ ∀ e ∈ c, ¬ e.path <:+ key := by
  rw [callCfg, Option.map_eq_none_iff, List.find?_eq_none]
  exact forall_congr' fun e => by rw [mem_sortByLen, List.isSuffixOf_iff_suffix]

/-- conversely, where no path occurs twice: two suffixes of the key of one length are one path -/
theorem callCfg_eq_of_longest (c : Config V) (key : Str) (hn : (c.map (·.path)).Nodup) (e : CEntry V)
    (he : e ∈ c) (hs : e.path <:+ key)
    (hmax : ∀ e' ∈ c, e'.path <:+ key → e'.path.length ≤ e.path.length) : callCfg c key = some e.val := by
  cases h : callCfg c key with
  | none => exact absurd hs ((callCfg_none_iff c key).mp h e he)
  | some v =>
    obtain ⟨e', he', rfl, hs', hmax'⟩ := callCfg_longest_suffix c key v h
    have hlen := Nat.le_antisymm (hmax e' he' hs') (hmax' e he hs)
    rw [eq_of_nodup_map _ hn he' he
      ((List.suffix_of_suffix_length_le hs' hs (Nat.le_of_eq hlen)).eq_of_length hlen)]

/-- The answer of a directory does not depend on the order of its entries (the library's is the file
system's, the translator's is sorted), as long as no path occurs twice. -/
theorem callCfg_perm (c c' : Config V) (key : Str) (hn : (c.map (·.path)).Nodup) (hp : c'.Perm c) :
    callCfg c' key = callCfg c key := by
  cases h : callCfg c key with
  | none =>
    rw [callCfg_none_iff] at h ⊢
    exact fun e he => h e (hp.mem_iff.mp he)
  | some v =>
    obtain ⟨e, he, rfl, hs, hmax⟩ := callCfg_longest_suffix c key v h
    exact callCfg_eq_of_longest c' key ((hp.map _).nodup_iff.mpr hn) e (hp.mem_iff.mpr he) hs
      fun e' he' => hmax e' (hp.mem_iff.mp he')

/-- the driver sorts every table once per request and hands the sorted table to the look-up: the
answers are those for the table as generated -/
theorem callCfg_presorted (c : Config V) (key : Str) : callCfg (sortByLen c) key = callCfg c key := by
  unfold callCfg
  rw [sortByLen_of_desc _ (desc_sortByLen c)]

/-- the nearest class of the family answers, in the first directory of the chain that has an entry for
any class of the family -/
theorem chainLookup_first (pre : List (Config V)) (c : Config V) (post : List (Config V))
    (fpre : List Str) (cls : Str) (fpost : List Str) (attr leaf : Str) (v : CVal V)
    (hdirs : ∀ c' ∈ pre, forClass c' (fpre ++ cls :: fpost) attr leaf = none)
    (hnear : ∀ k ∈ fpre, callCfg c (keyOf k attr leaf) = none)
    (hc : callCfg c (keyOf cls attr leaf) = some v) :
    chainLookup (pre ++ c :: post) (fpre ++ cls :: fpost) attr leaf = some v :=
  List.findSome?_eq_some_iff.mpr ⟨pre, c, post, rfl,
    List.findSome?_eq_some_iff.mpr ⟨fpre, cls, fpost, rfl, hc, hnear⟩, hdirs⟩

/-- conversely every answer of the chain arises that way -/
theorem chainLookup_some (cs : List (Config V)) (fam : List Str) (attr leaf : Str) (v : CVal V)
    (h : chainLookup cs fam attr leaf = some v) :
    ∃ pre c post fpre cls fpost, cs = pre ++ c :: post ∧ fam = fpre ++ cls :: fpost ∧
      callCfg c (keyOf cls attr leaf) = some v ∧
      (∀ c' ∈ pre, forClass c' fam attr leaf = none) ∧
      (∀ k ∈ fpre, callCfg c (keyOf k attr leaf) = none) := by
  obtain ⟨pre, c, post, hcs, hc, hpre⟩ := List.findSome?_eq_some_iff.mp h
  obtain ⟨fpre, cls, fpost, hfam, hcls, hfpre⟩ := List.findSome?_eq_some_iff.mp hc
  exact ⟨pre, c, post, fpre, cls, fpost, hcs, hfam, hcls, hpre, hfpre⟩

/-- no entry in any directory for any class of the family: `ConfigException` -/
theorem chainLookup_none_iff (cs : List (Config V)) (fam : List Str) (attr leaf : Str) :
    chainLookup cs fam attr leaf = none ↔ ∀ c ∈ cs, ∀ k ∈ fam, callCfg c (keyOf k attr leaf) = none := by
  simp [chainLookup, forClass, List.findSome?_eq_none_iff]

theorem mem_familyList (q : Str) : ∀ (bs : List ClsTree), q ∈ familyList bs ↔ ∃ b ∈ bs, q ∈ family b
  | [] => by simp [familyList]
  | b :: bs => by simp [familyList, mem_familyList q bs]

/-- configuration is inherited, the class's own entry wins -/
theorem family_head_and_bases (p : Str) (bs : List ClsTree) :
    (family (.node p bs)).head? = some p ∧ ∀ b ∈ bs, ∀ q ∈ family b, q ∈ family (.node p bs) := by
  refine ⟨by simp [family], fun b hb q hq => ?_⟩
  rw [family]
  exact List.mem_cons_of_mem _ ((mem_familyList q bs).mpr ⟨b, hb, hq⟩)

theorem nothing_configured_defaults (dflt : V) (cs : List (Config V)) (cls : ClsTree) (attr : Str)
    (hw : chainLookup cs (family cls) attr leafWidth = none)
    (hl : chainLookup cs (family cls) attr leafLimits = none) :
    widthModifierFor dflt cs cls attr = (true, dflt) ∧ limitsFor (V := V) cs cls attr = none := by
  simp [widthModifierFor, widthModifierFound, limitsFor, limitsFound, hw, hl]

theorem configured_entry_used (dflt : V) (cs : List (Config V)) (cls : ClsTree) (attr : Str) (rel : Bool) (v lo hi : V)
    (hw : chainLookup cs (family cls) attr leafWidth = some (.wm rel v))
    (hl : chainLookup cs (family cls) attr leafLimits = some (.lim lo hi)) :
    widthModifierFor dflt cs cls attr = (rel, v) ∧ limitsFor cs cls attr = some (lo, hi) := by
  simp [widthModifierFor, widthModifierFound, limitsFor, limitsFound, hw, hl]

/-- two directories; the class `u.Q` inherits from `v.P`, whose attribute `a` is configured in the
second directory only -/
def dirA : Config Int := [⟨['Q', '.', 'b', '.', 'w'], .wm false 7⟩, ⟨['b', '.', 'w'], .wm false 1⟩]
def dirB : Config Int := [⟨['P', '.', 'a', '.', 'w'], .wm true 3⟩, ⟨['a', '.', 'w'], .other⟩]
def clsQ : ClsTree := .node ['u', '.', 'Q'] [.node ['o'] [], .node ['v', '.', 'P'] [.node ['o'] []]]

example : family clsQ = [['u', '.', 'Q'], ['o'], ['v', '.', 'P'], ['o']] := by decide +kernel
/-- longest path wins inside a directory: `u.Q.b.w` ends with `Q.b.w` and with `b.w` -/
example : callCfg dirA ['u', '.', 'Q', '.', 'b', '.', 'w'] = some (.wm false 7) := by decide +kernel
example : callCfg dirA.reverse ['u', '.', 'Q', '.', 'b', '.', 'w'] = some (.wm false 7) := by decide +kernel
/-- inherited: nothing for `u.Q.a.w`, `o.a.w` in `dirA`; in `dirB` `u.Q.a.w` ends with `a.w`: the
nearest class answers with the (malformed) shorter entry - plain string suffixes -/
example : chainLookup [dirA, dirB] (family clsQ) ['a'] ['w'] = some .other := by decide +kernel
example : chainLookup [dirA, dirB] (family (.node ['v', '.', 'P'] [])) ['a'] ['w'] = some (.wm true 3) := by decide +kernel
example : chainLookup [dirA, dirB] (family clsQ) ['z'] ['w'] = none := by decide +kernel

/-! ## the prior a parameter receives under the looked-up configuration -/

/-- Every parameter receives the prior derived from its own inferred value under the configuration of
its own place, looked up by the model. -/
theorem passed_prior_own_config (po : PassOps V) (dflt : V) (cs : List (Config V)) (mode : PassMode V)
    (t : Node V') (olds : List (PD V)) (places : List (Place V)) (xs : List (V × V))
    (ho : olds.length = count t) (hp : places.length = count t) (hx : xs.length = count t)
    (i : Nat) (hi : i < count t) :
    lookupArg (passArgsCfg po dflt cs mode t olds places xs) ((uniqueIds t)[i]'hi) =
      some (derive po mode (olds[i]'(ho ▸ hi)) (resolveCfg dflt cs (places[i]'(hp ▸ hi)))
        (xs[i]'(hx ▸ hi)).1 (xs[i]'(hx ▸ hi)).2) := by
  have hc : (places.map (resolveCfg dflt cs)).length = count t := by simp [hp]
  simp only [passArgsCfg, passed_prior_for_parameter po mode t olds _ xs ho hc hx i hi, List.getElem_map]

/-- The width comes from the prior's own modifier if it has one, else the configured one, else relative
`dflt`; the limits are the configured gaussian limits, else the old prior's. -/
theorem passed_width_own_modifier (po : PassOps V) (dflt : V) (cs : List (Config V)) (nl : Bool)
    (old : PD V) (pl : Place V) (x y : V) :
    let m := pl.own.getD (widthModifierFor dflt cs pl.cls pl.attr)
    let d := derive po (.means none none nl) old (resolveCfg dflt cs pl) x y
    d.mean = x ∧ d.sigma = (if m.1 then po.abs (po.mul m.2 x) else m.2) ∧
    (nl = false → (d.lo, d.hi) = (limitsFor cs pl.cls pl.attr).getD (old.lo, old.hi)) := by
  obtain ⟨cls, attr, own⟩ := pl
  refine ⟨rfl, ?_, fun h => ?_⟩
  · cases own <;> rfl
  · subst h
    simp only [derive, resolveCfg]
    cases limitsFor cs cls attr <;> rfl

theorem chainLookup_mem (cs : List (Config V)) (fam : List Str) (attr leaf : Str) (v : CVal V)
    (h : chainLookup cs fam attr leaf = some v) : ∃ c ∈ cs, ∃ e ∈ c, e.val = v := by
  obtain ⟨pre, c, post, _, cls, _, hcs, _, hc, _, _⟩ := chainLookup_some cs fam attr leaf v h
  obtain ⟨e, he, hv, _, _⟩ := callCfg_longest_suffix c _ v hc
  exact ⟨c, by simp [hcs], e, he, hv⟩

/-- the fall-back is relative, so an absolute width comes from a directory of the chain -/
theorem widthModifierFor_absolute (dflt : V) (cs : List (Config V)) (cls : ClsTree) (attr : Str) (w : V)
    (h : widthModifierFor dflt cs cls attr = (false, w)) : ∃ c ∈ cs, ∃ e ∈ c, e.val = .wm false w := by
  unfold widthModifierFor widthModifierFound at h
  cases hc : chainLookup cs (family cls) attr leafWidth with
  | none => simp [hc] at h
  | some cv =>
    cases cv with
    | wm rel' w' =>
      simp only [hc, Prod.mk.injEq] at h
      exact h.1 ▸ h.2 ▸ chainLookup_mem cs _ _ _ _ hc
    | lim _ _ => simp [hc] at h
    | other => simp [hc] at h

/-- Widths are never negative under the looked-up configuration; `configAbsNonneg` is evaluated on the
generated tables on every run. -/
theorem resolved_width_nonneg (po : PassOps V) (le : V → V → Prop) (leB : V → V → Bool) (zero dflt : V)
    (hle : ∀ a b, leB a b = true → le a b) (habs : ∀ x, le zero (po.abs x))
    (cs : List (Config V)) (hcfg : configAbsNonneg leB zero cs = true)
    (a r : Option V) (pl : Place V) (x : V)
    (ha : ∀ w, a = some w → le zero w) (hown : ∀ w, pl.own = some (false, w) → le zero w) :
    le zero (passWidth po a r (resolveCfg dflt cs pl) x) := by
  refine width_nonneg po le zero habs a r _ x ha fun hrel => ?_
  cases ho : pl.own with
  | some m =>
    simp only [resolveCfg, ho] at hrel ⊢
    exact hown m.2 (by rw [ho, ← hrel])
  | none =>
    simp only [resolveCfg, ho] at hrel ⊢
    obtain ⟨c, hc, e, he, hv⟩ := widthModifierFor_absolute dflt cs pl.cls pl.attr _ (Prod.ext hrel rfl)
    have := List.all_eq_true.mp (List.all_eq_true.mp hcfg c hc) e he
    rw [hv] at this
    exact hle _ _ this

/-- the hypothesis of `resolved_width_nonneg` on the tables holds for `dirA`, `dirB` -/
example : configAbsNonneg (fun a b => decide (a ≤ b)) (0 : Int) [dirA, dirB] = true := by decide +kernel

/-! ## the way through a result (`AFModel/PassRoutes.lean`): `Result.model`, `model_absolute`,
`model_relative`, `model_bounded` -/

/-- A value stored under a place of parameter i comes back at position i, if every key is a place of
its own parameter and of no other. -/
theorem vectorOfKwargs_own (keys : List Path) (groups : List (List Path)) (v : List V)
    (hlen : keys.length = groups.length) (hv : v.length = keys.length)
    (hown : ∀ i (hi : i < keys.length), keys[i] ∈ groups[i]'(hlen ▸ hi))
    (hother : ∀ i j (hi : i < keys.length) (hj : j < groups.length), i ≠ j → keys[i] ∉ groups[j]) :
    vectorOfKwargs (keys.zip v) groups = v.map some := by
  refine vectorOfKwargs_of_keysOK ⟨hlen, fun i k g hk hg => ?_, fun i j k g hk hg hm => ?_⟩ v hv
  · obtain ⟨hi, rfl⟩ := List.getElem?_eq_some_iff.mp hk
    obtain ⟨_, rfl⟩ := List.getElem?_eq_some_iff.mp hg
    exact hown i hi
  · obtain ⟨hj, rfl⟩ := List.getElem?_eq_some_iff.mp hk
    obtain ⟨hi, rfl⟩ := List.getElem?_eq_some_iff.mp hg
    exact Decidable.byContradiction fun hne => hother j i hj hi (Ne.symm hne) hm

/-- the decidable check the driver evaluates on every composition gives the two hypotheses -/
theorem keysOwnGroups_spec (keys : List Path) (groups : List (List Path)) (h : keysOwnGroups keys groups = true) :
    ∃ hlen : keys.length = groups.length,
      (∀ i (hi : i < keys.length), keys[i] ∈ groups[i]'(hlen ▸ hi)) ∧
      (∀ i j (hi : i < keys.length) (hj : j < groups.length), i ≠ j → keys[i] ∉ groups[j]) := by
  simp only [keysOwnGroups, Bool.and_eq_true, beq_iff_eq, List.all_eq_true, List.mem_range] at h
  obtain ⟨hlen, hall⟩ := h
  refine ⟨hlen, fun i hi => ?_, fun i j hi hj hne => ?_⟩
  · simpa [List.getElem?_eq_getElem hi, List.getElem?_eq_getElem (hlen ▸ hi : i < groups.length)]
      using hall i hi i (hlen ▸ hi)
  · simpa [List.getElem?_eq_getElem hi, List.getElem?_eq_getElem hj, hne] using hall i hi j hj

/-- `Result.model` & co. hand prior passing the inferred vector itself, in parameter order (the
hypothesis on the sample keys is evaluated by the driver on every generated composition). -/
theorem result_vector_roundtrip (t : Node V') (v : List V) (hv : v.length = (uniquePaths t).length)
    (hown : keysOwnGroups (uniquePaths t) (allPaths t) = true) :
    resultVector t v = v.map some := by
  obtain ⟨hlen, h1, h2⟩ := keysOwnGroups_spec _ _ hown
  exact vectorOfKwargs_own (uniquePaths t) (allPaths t) v hlen hv h1 h2

/-- hence the arguments built through a result are those built from the vector directly: each
of the theorems above about `passArgsCfg` applies to `Result.model`, `model_absolute`, `model_relative`
(median vector) and `model_bounded` (maximum likelihood vector) -/
theorem result_route_same_arguments (po : PassOps V) (dflt z : V) (cs : List (Config V)) (mode : PassMode V)
    (t : Node V') (olds : List (PD V)) (places : List (Place V)) (v : List V)
    (hv : v.length = (uniquePaths t).length) (hown : keysOwnGroups (uniquePaths t) (allPaths t) = true) :
    passArgsCfg po dflt cs mode t olds places ((resultVector t v).map (fun o => (o.getD z, z))) =
      passArgsCfg po dflt cs mode t olds places (v.map (fun x => (x, z))) := by
  rw [result_vector_roundtrip t v hv hown, List.map_map]
  rfl

/-- the shared parameter 7 has two places; its key is its last place -/
example : uniquePaths t₀ = [["g", "b"], ["h"]] ∧ allPaths t₀ = [[["g", "b"]], [["g", "a"], ["h"]]] ∧
    keysOwnGroups (uniquePaths t₀) (allPaths t₀) = true ∧
    resultVector t₀ [(-4 : Int), 6] = [some (-4), some 6] := by decide +kernel

/-- The same for every composition in which no two places have the same path (true of every Python
object tree: attribute names and collection keys are dictionary keys). -/
theorem result_vector_roundtrip_distinct_paths (t : Node V') (v : List V) (hv : v.length = count t)
    (hpaths : ((walk t).map (·.1)).Nodup) :
    resultVector t v = v.map some := by
  -- C05 reads a sample back through the same keys and groups
  have hK := Samples.keysOK_of_distinct_places t hpaths
  exact vectorOfKwargs_of_keysOK hK v (by rw [hv, hK.len, Samples.allPaths, List.length_map, count])

/-- the places of `t₀` (a shared parameter among them) have distinct paths -/
example : ((walk t₀).map (·.1)).Nodup := by decide +kernel

/-! ## which class and attribute name a parameter is configured by (`AFModel/PassPlace.lean`) -/

theorem placesFromTree_length (classes : List (String × ClsTree)) (t : Node V') (owns : List (Option (Bool × V)))
    (hown : owns.length = count t) : (placesFromTree classes t owns).length = count t := by
  simp [placesFromTree, placeKeys, count, hown]

/-- the place of the i-th parameter: the class `prior_class_dict` ends up with (last write), the name
of its last place (the collection's name for a position), its own modifier -/
theorem place_of_parameter (classes : List (String × ClsTree)) (t : Node V') (owns : List (Option (Bool × V)))
    (hown : owns.length = count t) (i : Nat) (hi : i < count t) :
    (placesFromTree classes t owns)[i]'(by rw [placesFromTree_length classes t owns hown]; exact hi) =
      { cls := (((classOfId t ((uniqueIds t)[i]'hi)).bind (fun c => classes.lookup c)).getD (.node [] [])),
        attr := (placeName ((lastPlace (pathPriors t) ((uniqueIds t)[i]'hi)).getD [])).toList,
        own := owns[i]'(hown ▸ hi) } := by
  simp only [placesFromTree, placeKeys, List.getElem_map, List.getElem_zip]
  rfl

/-- Every parameter receives the prior derived from its own inferred value under the configuration the
model looks up for the class and attribute name it derives from the composition: the harness hands over
nothing about the configuration. -/
theorem passed_prior_place_config (po : PassOps V) (dflt : V) (cs : List (Config V)) (mode : PassMode V)
    (classes : List (String × ClsTree)) (t : Node V') (olds : List (PD V)) (owns : List (Option (Bool × V)))
    (xs : List (V × V)) (ho : olds.length = count t) (hown : owns.length = count t) (hx : xs.length = count t)
    (i : Nat) (hi : i < count t) :
    lookupArg (passArgsCfg po dflt cs mode t olds (placesFromTree classes t owns) xs) ((uniqueIds t)[i]'hi) =
      some (derive po mode (olds[i]'(ho ▸ hi))
        (resolveCfg dflt cs ((placesFromTree classes t owns)[i]'(by
          rw [placesFromTree_length classes t owns hown]; exact hi)))
        (xs[i]'(hx ▸ hi)).1 (xs[i]'(hx ▸ hi)).2) :=
  passed_prior_own_config po dflt cs mode t olds _ xs ho (placesFromTree_length classes t owns hown) hx i hi

/-- the last write for an id wins: if the part `l` written last writes `id`, its class is found -/
theorem lastWrite_mem (front l : List (Nat × String)) (id : Nat) (hex : ∃ e ∈ l, e.1 = id) :
    ∃ e ∈ l, (((front ++ l).reverse.find? (·.1 == id)).map (·.2)) = some e.2 := by
  obtain ⟨e₀, h₀, rfl⟩ := hex
  obtain ⟨e, hf, -, he⟩ := find?_of_mem (p := (·.1 == e₀.1)) (List.mem_reverse.mpr h₀) (beq_self_eq_true _)
  exact ⟨e, List.mem_reverse.mp he, by rw [List.reverse_append, List.find?_append, hf]; rfl⟩

/-- a component whose attributes hold no further components: every parameter below it (direct,
in a tuple) is configured by the component's own class -/
theorem classOfId_flat_model (cls : String) (ctor : List String) (attrs : List (String × Node V'))
    (hflat : classDictKids attrs = []) (id : Nat) (hid : id ∈ (walkAttrs attrs).map (·.2)) :
    classOfId (.model cls ctor attrs) id = some cls := by
  obtain ⟨w, hw, rfl⟩ := List.mem_map.mp hid
  obtain ⟨e, he, hf⟩ := lastWrite_mem [] ((walkAttrs attrs).map (fun w => (w.2, cls))) w.2
    ⟨_, List.mem_map.mpr ⟨w, hw, rfl⟩, rfl⟩
  obtain ⟨_, -, rfl⟩ := List.mem_map.mp he
  rw [classOfId, classDict, hflat, List.append_nil]
  exact hf

/-- under a component every parameter has a class (no `KeyError`), whatever is nested below -/
theorem classOfId_isSome_model (cls : String) (ctor : List String) (attrs : List (String × Node V'))
    (id : Nat) (hid : id ∈ (walkAttrs attrs).map (·.2)) :
    (classOfId (.model cls ctor attrs) id).isSome = true := by
  obtain ⟨w, hw, rfl⟩ := List.mem_map.mp hid
  obtain ⟨e, -, hf⟩ := lastWrite_mem [] (classDict (.model cls ctor attrs)) w.2
    ⟨(w.2, cls), by rw [classDict]; exact List.mem_append_left _ (List.mem_map.mpr ⟨w, hw, rfl⟩), rfl⟩
  rw [classOfId, ← List.nil_append (classDict _), hf]
  rfl

/-- a parameter a collection holds directly is configured as `ModelInstance`, even when a component
of the collection shares it (the collection writes last) -/
theorem classOfId_collection_direct (attrs : List (String × Node V')) (id : Nat) (hid : id ∈ directPriorIds attrs) :
    classOfId (.coll attrs) id = some "ModelInstance" := by
  obtain ⟨e, he, hf⟩ := lastWrite_mem (classDictKids attrs)
    ((directPriorIds attrs).map (fun i => (i, "ModelInstance"))) id ⟨_, List.mem_map.mpr ⟨id, hid, rfl⟩, rfl⟩
  obtain ⟨_, -, rfl⟩ := List.mem_map.mp he
  rw [classOfId, classDict]
  exact hf

theorem placeName_position (pre : Path) (m n : String) :
    placeName (pre ++ [m, n]) = if isDigits n then m else n := by
  simp [placeName]

/-- parameter 7 is `g.a` (class P2) and the collection's own `h`: the collection writes last;
parameter 3 is `g.b` only -/
example : (placeKeys t₀).map (·.1) = [some "P2", some "ModelInstance"] := by decide +kernel
example : classDictKids (V := Int) [("a", .prior 7), ("b", .prior 3)] = [] := by decide +kernel
-- tests (compiler-evaluated; string functions do not reduce in the kernel)
#guard placeKeys t₀ == [(some "P2", "b"), (some "ModelInstance", "h")]
#guard placeName ["galaxies", "0"] == "galaxies" && placeName ["0"] == "0" && placeName ["g", "pos", "pos_0"] == "pos_0"

end AF.C12
