import AFProofs.Lemmas.FitFS
import AFProofs.Lemmas.FitPlan

/-!
# C06 — fits resume, complete once, and survive crashes

Property theorems about the `FitFS` model (`AFModel/FitFS.lean`), the very definitions the driver
executes (`run`, `crashStates`, `exec`, `safe`, `completedResult`, `sampled`).  The model is tied to
/repo by `harness/c06.py`.

Quantifiers: every safe state `fs` (in particular every state any history reaches, `history_safe`),
every number `n` of intermediate sampler updates, every output setting and search (`st`), every crash
point of a call — between two steps and inside every non-atomic write (`crashStates`) —, every
history of runs and kills of any length (`exec`).

Hypothesis `cfg.sound st`: the repairs of `fixes/C06-*.patch` are in place (archive moved into place
atomically; files read back on resume replaced atomically; the resume sanity check compares a log
likelihood with a log likelihood; BFGS reads the keys its checkpoint has — the last two only matter
for searches whose figure of merit is not the likelihood / for BFGS).  For each repair switched off
the property is refuted by a concrete history (`…_refuted_when_…`): that is the pinned commit.

Clauses of the property and where they are:

* re-running a completed fit repeats no sampling and returns the same result: `rerun_complete_noop`
* after a death at any point the next run terminates normally, complete: `crash_states_safe` + `run_completes`,
  `crash_safe` (any history)
* a result once marked complete is never lost, corrupted or replaced: `completed_never_lost` (one call, all its
  crash points), `history_never_lost`
* the marker is only ever seen on top of a readable result, the archive never truncated: `marker_last`,
  `archive_never_torn`
-/

namespace AF.FitFS

variable {cfg : Cfg} {st : Settings}

/-- Every state a kill can leave during one call of `fit` from a safe state — between any two steps
or inside any write — is safe again. -/
theorem crash_states_safe (n : Nat) {fs : FS} (h : cfg.sound st = true) (hs : safe st fs = true) :
    ∀ c ∈ crashStates fs (run cfg st n fs).steps, safe st c = true := by
  obtain ⟨l, r, h1, h2, -⟩ := run_safe (cfg := cfg) n (sound_iff.1 h) hs
  rw [h1]
  exact allowed_crash_safe hs h2

/-- From a safe state `fit` terminates normally, and the result it returns is the completed result the
output directory holds afterwards; the final state is safe. -/
theorem run_completes (n : Nat) {fs : FS} (h : cfg.sound st = true) (hs : safe st fs = true) :
    ∃ r, (run cfg st n fs).outcome = .ok r ∧
      completedResult ((run cfg st n fs).final fs) = some r ∧
      safe st ((run cfg st n fs).final fs) = true := by
  obtain ⟨l, r, h1, h2, h3, -⟩ := run_safe (cfg := cfg) n (sound_iff.1 h) hs
  refine ⟨r, by rw [h1], ?_, ?_⟩
  · rw [h1]; exact h3.completed
  · rw [h1]; exact h3.safe

/-- A completed result held by the state is held, unchanged, by every state a kill during the next
call can leave, and by the state after the call. -/
theorem completed_never_lost (n : Nat) {fs : FS} {r : View} (h : cfg.sound st = true)
    (hs : safe st fs = true) (hr : completedResult fs = some r) :
    ∀ c ∈ crashStates fs (run cfg st n fs).steps, completedResult c = some r := by
  obtain ⟨l, r', h1, h2, -⟩ := run_safe (cfg := cfg) n (sound_iff.1 h) hs
  rw [h1]
  exact allowed_crash_completed hr h2

/-- Running a completed fit again: no sampling, the same result returned, the same result held. -/
theorem rerun_complete_noop (n : Nat) {fs : FS} {r : View} (h : cfg.sound st = true)
    (hs : safe st fs = true) (hr : completedResult fs = some r) :
    (run cfg st n fs).outcome = .ok r ∧ sampled (run cfg st n fs).steps = false ∧
      completedResult ((run cfg st n fs).final fs) = some r := by
  obtain ⟨l, r', h1, h2, h3, h4, -⟩ := run_safe (cfg := cfg) n (sound_iff.1 h) hs
  obtain ⟨e1, e2⟩ := h4 r hr
  subst e1
  refine ⟨by rw [h1], by rw [h1]; exact e2, ?_⟩
  rw [h1]; exact h3.completed

/-- …whereas a fit that holds no completed result is sampled (the previous theorem is not vacuous
in its "no sampling" clause). -/
theorem incomplete_is_sampled (n : Nat) {fs : FS} (h : cfg.sound st = true) (hs : safe st fs = true)
    (hr : completedResult fs = none) : sampled (run cfg st n fs).steps = true := by
  obtain ⟨l, r', h1, -, -, -, h5⟩ := run_safe (cfg := cfg) n (sound_iff.1 h) hs
  rw [h1]; exact h5 hr

/-- The marker is written last: whenever a kill leaves a marked folder without an archive, the result
in it can be read (complete summary; samples table and its info complete or absent). -/
theorem marker_last (n : Nat) {fs : FS} (h : cfg.sound st = true) (hs : safe st fs = true) :
    ∀ c ∈ crashStates fs (run cfg st n fs).steps, c.zip = .absent → c.folder .marker ≠ .absent →
      ∃ r, readResult c.folder = .ok r := by
  intro c hc hz hm
  have hsafe := crash_states_safe n h hs c hc
  exact ((safe_absent hz).1 hsafe).marked_result hm

/-- No kill leaves a truncated archive where `restore` looks. -/
theorem archive_never_torn (n : Nat) {fs : FS} (h : cfg.sound st = true) (hs : safe st fs = true) :
    ∀ c ∈ crashStates fs (run cfg st n fs).steps, c.zip ≠ .torn := by
  intro c hc hz
  have hsafe := crash_states_safe n h hs c hc
  simp [safe, hz] at hsafe

/-- Beside a complete archive the folder is irrelevant: `fit` behaves identically whatever a
half-finished `rmtree` / `extractall` left there (this is why the harness identifies such states). -/
theorem archive_shadows_folder (n : Nat) (fo₁ fo₂ c : Folder) (k : Nat) :
    run cfg st n ⟨fo₁, .full c, k⟩ = run cfg st n ⟨fo₂, .full c, k⟩ ∧
    safe st ⟨fo₁, .full c, k⟩ = safe st ⟨fo₂, .full c, k⟩ ∧
    completedResult ⟨fo₁, .full c, k⟩ = completedResult ⟨fo₂, .full c, k⟩ := by
  refine ⟨?_, rfl, rfl⟩
  rw [run_of_restore (fs := ⟨fo₁, .full c, k⟩) rfl, run_of_restore (fs := ⟨fo₂, .full c, k⟩) rfl,
    applyAll_restore, applyAll_restore]

/-! ### histories: any sequence of run / crash / re-run -/

theorem init_safe : safe st FS.init = true := rfl

theorem history_safe (h : cfg.sound st = true) :
    ∀ (evs : List Event) (fs : FS), safe st fs = true → safe st (exec cfg st fs evs) = true :=
  fun evs _ => exec_induction (fun _ n hs => crash_states_safe n h hs) evs

/-- **Crash safety, full strength**: after *any* history of runs and kills — at any point, any number of
times — the next run terminates normally with a complete result, which the directory then holds. -/
theorem crash_safe (h : cfg.sound st = true) (evs : List Event) (n : Nat) :
    let fs := exec cfg st FS.init evs
    safe st fs = true ∧
    ∃ r, (run cfg st n fs).outcome = .ok r ∧ completedResult ((run cfg st n fs).final fs) = some r := by
  have hs := history_safe h evs FS.init init_safe
  obtain ⟨r, h1, h2, -⟩ := run_completes (cfg := cfg) n h hs
  exact ⟨hs, r, h1, h2⟩

/-- **Never lost, corrupted or replaced**: a completed result held at some point of a history is held
after every continuation of the history… -/
theorem history_never_lost (h : cfg.sound st = true) {r : View} :
    ∀ (evs : List Event) (fs : FS), safe st fs = true → completedResult fs = some r →
      completedResult (exec cfg st fs evs) = some r :=
  fun evs _ hs hr => (exec_induction (P := fun fs => safe st fs = true ∧ completedResult fs = some r)
    (fun _ n h0 c hc => ⟨crash_states_safe n h h0.1 c hc, completed_never_lost n h h0.1 h0.2 c hc⟩)
    evs ⟨hs, hr⟩).2

/-- …and is what every later run returns, without sampling. -/
theorem completed_once (h : cfg.sound st = true) {r : View} (before after : List Event) (n : Nat)
    (hr : completedResult (exec cfg st FS.init before) = some r) :
    let fs := exec cfg st (exec cfg st FS.init before) after
    (run cfg st n fs).outcome = .ok r ∧ sampled (run cfg st n fs).steps = false := by
  have hs0 := history_safe h before FS.init init_safe
  have hs := history_safe h after _ hs0
  have hr' := history_never_lost h after _ hs0 hr
  obtain ⟨h1, h2, -⟩ := rerun_complete_noop (cfg := cfg) n h hs hr'
  exact ⟨h1, h2⟩

/-! ### non-vacuity and the pinned commit -/

/-- Drawer, uniform priors, files kept, samples table on -/
def stDrawer : Settings := ⟨false, true, false, .drawer, true⟩
/-- LBFGS, files removed after zipping, search internal kept -/
def stLbfgs : Settings := ⟨true, true, true, .lbfgs, false⟩

/-- a finished fit -/
def fsDone (cfg : Cfg) (st : Settings) : FS := (run cfg st 1 FS.init).final FS.init

example : Cfg.repaired.sound stDrawer = true ∧ Cfg.repaired.sound stLbfgs = true := by decide +kernel

/-- a non-trivial state meeting the hypotheses of every theorem above: safe, holding a completed result -/
example : safe stLbfgs (fsDone .repaired stLbfgs) = true ∧
    completedResult (fsDone .repaired stLbfgs) = some ⟨2, some (2, 2)⟩ := by decide +kernel

/-- a kill in the middle of a resumed fit leaves a safe state without a completed result -/
example : ((crashStates FS.init (run .repaired stLbfgs 1 FS.init).steps)[8]?).map
    (fun c => (safe stLbfgs c, completedResult c, c.folder .summary, c.folder .samples)) =
    some (true, none, .full 1, .torn) := by decide +kernel

/-! ### the plan read off the source

`AF.FitFS.Plan` walks the call tables that `harness/tables_c06.py` regenerates from the repository on every run
(`AFModel/Generated/C06.lean`: the ordered calls of `fit`, `pre_fit_output`, `start_resume_fit`, `perform_update`,
`result_via_completed_fit`, `post_fit_output`, `restore`, `_zip`, `zip_directory` and of the writers of
`DirectoryPaths` / `Timer`, with the settings guarding each call).  The three structural repairs are not a
hypothesis supplied as data: they are computed from those tables (`source_repairs_in_place`), and the step list
the theorems above quantify over is the one the source spells out (`plan_is_run`).  A write added to, removed
from or moved inside one of those functions changes the tables, hence these proof obligations. -/

/-- The source writes the archive beside its name and moves it into place, opens it before deleting the
folder, and writes every file read back on resume through `open_atomic`. -/
theorem source_repairs_in_place :
    Plan.srcZipAtomic = true ∧ Plan.srcRestoreValidates = true ∧ Plan.srcAtomicWrites = true :=
  ⟨srcZipAtomic_true, srcRestoreValidates_true, srcAtomicWrites_true⟩

/-- Hence the hypothesis of every theorem above reduces, for the configuration the source stands for, to the two
semantic repairs (resume check, BFGS checkpoint keys) - and to nothing for a nested sampler. -/
theorem source_cfg_sound (a b : Bool) (h1 : (a || st.fomIsLikelihood) = true)
    (h2 : (b || st.search != .lbfgs) = true) : (Plan.srcCfg a b).sound st = true := by
  rw [srcCfg_eq]
  simp only [Cfg.sound, Bool.true_and]
  rw [h1, h2]
  rfl

/-- `perform_update` as the source orders it is the model's `update`, for every setting and content name. -/
theorem plan_update_conforms (a b : Bool) (st : Settings) (g : Nat) :
    Plan.updateSteps st g = update (Plan.srcCfg a b) st g := updateSteps_eq a b st g

/-- `start_resume_fit` as the source orders it (timer, sampler, final update, marker *last*) is the model's
`timerStart` followed by `sampling`, for every number of intermediate updates. -/
theorem plan_start_resume_conforms (a b : Bool) (st : Settings) (n g0 : Nat) (fo : Folder) :
    Plan.startResumeSteps st n g0 fo =
      (timerStart (Plan.srcCfg a b) fo).1 ++ sampling (Plan.srcCfg a b) st n g0 :=
  startResumeSteps_eq a b st n g0 fo

/-- `restore` as the source orders it is the model's. -/
theorem plan_restore_conforms (a b : Bool) (st : Settings) (fs : FS) (h : fs.zip ≠ .torn) :
    restore (Plan.srcCfg a b) fs = (Plan.restoreSteps st fs, none) := restoreSteps_eq a b st fs h

/-- `result_via_completed_fit` neither samples nor writes, whatever the output settings. -/
theorem plan_completed_branch_reads_only (st : Settings) : Plan.completedFitSteps st = [] :=
  completedFitSteps_nil st

/-- **Refinement**: from every safe state, for every setting and number of updates, the step list read off
the source is the step list of `run` - the subject of every theorem of this file. -/
theorem plan_is_run (a b : Bool) (n : Nat) {fs : FS} (h : (Plan.srcCfg a b).sound st = true)
    (hs : safe st fs = true) :
    Plan.planSteps st n fs = (run (Plan.srcCfg a b) st n fs).steps := by
  obtain ⟨r, e, -⟩ := run_ok n (sound_iff.1 h) hs
  rw [e]
  exact planSteps_eq a b st n fs fun hz => by simp [safe, hz] at hs

/-- Crash safety stated on the source-derived steps: a kill between any two of them, or inside any write
they do not make atomically, leaves a safe state. -/
theorem plan_crash_states_safe (a b : Bool) (n : Nat) {fs : FS} (h : (Plan.srcCfg a b).sound st = true)
    (hs : safe st fs = true) :
    ∀ c ∈ crashStates fs (Plan.planSteps st n fs), safe st c = true := by
  rw [plan_is_run a b n h hs]
  exact crash_states_safe n h hs

/-- …and keeps a completed result held before. -/
theorem plan_completed_never_lost (a b : Bool) (n : Nat) {fs : FS} {r : View}
    (h : (Plan.srcCfg a b).sound st = true) (hs : safe st fs = true) (hr : completedResult fs = some r) :
    ∀ c ∈ crashStates fs (Plan.planSteps st n fs), completedResult c = some r := by
  rw [plan_is_run a b n h hs]
  exact completed_never_lost n h hs hr

/-- The source-derived steps of a call on a completed fit contain no sampling; on any other safe state they do,
and in both cases they end with a completed result held. -/
theorem plan_completes_once (a b : Bool) (n : Nat) {fs : FS} (h : (Plan.srcCfg a b).sound st = true)
    (hs : safe st fs = true) :
    (sampled (Plan.planSteps st n fs) = (completedResult fs).isNone) ∧
    (completedResult (applyAll fs (Plan.planSteps st n fs))).isSome = true := by
  obtain ⟨r, h1, h3, -, h5⟩ := run_ok (cfg := Plan.srcCfg a b) n (sound_iff.1 h) hs
  rw [plan_is_run a b n h hs, h1]
  exact ⟨h5, by rw [h3.post.completed]; rfl⟩

/-- Over histories: whatever sequence of runs and kills came before, the steps the source spells out for the next
call are safe to be killed in, and end complete. -/
theorem plan_crash_safe (a b : Bool) (h : (Plan.srcCfg a b).sound st = true) (evs : List Event) (n : Nat) :
    let fs := exec (Plan.srcCfg a b) st FS.init evs
    (∀ c ∈ crashStates fs (Plan.planSteps st n fs), safe st c = true) ∧
    (completedResult (applyAll fs (Plan.planSteps st n fs))).isSome = true := by
  have hs := history_safe h evs FS.init init_safe
  exact ⟨plan_crash_states_safe a b n h hs, (plan_completes_once a b n h hs).2⟩

/-- the hypotheses are met with no assumption at all for a nested sampler, and the plan is not trivial:
a fresh LBFGS fit with one intermediate update has as many steps as the model's `run`, samples, and ends complete -/
example : (Plan.srcCfg false false).sound ⟨true, true, false, .dynesty, true⟩ = true := by decide +kernel

example : (Plan.planSteps stLbfgs 1 FS.init).length = (run Cfg.repaired stLbfgs 1 FS.init).steps.length ∧
    sampled (Plan.planSteps stLbfgs 1 FS.init) = true ∧
    20 < (Plan.planSteps stLbfgs 1 FS.init).length := by decide +kernel

def anyState (l : List FS) (p : FS → Bool) : Bool := l.any p

/-- **Pinned commit, archive written in place**: re-running a *completed* fit, a kill while `<id>.zip`
is being written leaves a truncated archive beside the intact folder; the next `fit` deletes the
folder and raises `BadZipFile`: the completed result is lost. -/
theorem lost_refuted_when_zip_in_place :
    let cfg : Cfg := { Cfg.repaired with zipAtomic := false, restoreValidates := false }
    let fs := fsDone cfg stDrawer
    (completedResult fs).isSome = true ∧
    anyState (crashStates fs (run cfg stDrawer 0 fs).steps) (fun c =>
      (run cfg stDrawer 0 c).outcome == .raises .badZip &&
      completedResult ((run cfg stDrawer 0 c).final c) == none &&
      ((run cfg stDrawer 0 c).final c).folder .summary == .absent) = true := by
  decide +kernel

/-- with the archive still written in place but validated before the folder is deleted the result
survives, the fit is stuck all the same -/
theorem stuck_refuted_when_zip_in_place_validated :
    let cfg : Cfg := { Cfg.repaired with zipAtomic := false }
    let fs := fsDone cfg stDrawer
    anyState (crashStates fs (run cfg stDrawer 0 fs).steps) (fun c =>
      (run cfg stDrawer 0 c).outcome == .raises .badZip &&
      (folderResult ((run cfg stDrawer 0 c).final c).folder).isSome) = true := by
  decide +kernel

/-- **Pinned commit, result files written in place**: a kill inside the write of
`samples_summary.json` leaves a partial file; every later `fit` raises `JSONDecodeError`. -/
theorem stuck_refuted_when_writes_not_atomic :
    let cfg : Cfg := { Cfg.repaired with atomicWrites := false }
    anyState (crashStates FS.init (run cfg stDrawer 0 FS.init).steps) (fun c =>
      c.folder .summary == .torn && (run cfg stDrawer 0 c).outcome == .raises .jsonDecode) = true := by
  decide +kernel

/-- **Pinned commit, resume check compares the figure of merit**: a BFGS fit killed after an
intermediate update cannot be resumed (`SearchException`). -/
theorem stuck_refuted_when_check_compares_fom :
    let cfg : Cfg := { Cfg.repaired with fomCheckSound := false }
    anyState (crashStates FS.init (run cfg stLbfgs 1 FS.init).steps) (fun c =>
      safe stLbfgs c && (run cfg stLbfgs 1 c).outcome == .raises .fomMismatch) = true := by
  decide +kernel

/-- **Pinned commit, BFGS checkpoint keys**: a BFGS fit killed after its first checkpoint cannot be
resumed (`KeyError`). -/
theorem stuck_refuted_when_lbfgs_checkpoint_unread :
    let cfg : Cfg := { Cfg.repaired with lbfgsResumes := false }
    anyState (crashStates FS.init (run cfg stLbfgs 1 FS.init).steps) (fun c =>
      safe stLbfgs c && (run cfg stLbfgs 1 c).outcome == .raises .keyError) = true := by
  decide +kernel

end AF.FitFS
