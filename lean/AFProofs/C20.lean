import AFProofs.Lemmas.Interp
import AFProofs.Lemmas.InterpCov

/-!
# C20 — interpolation reproduces known points and linear trends

Property theorems about the `Interp` model (`AFModel/Interp.lean`): for every series of instance
trees, every path of the interpolation variable, every query value, every `_interpolate` function
`f` (least squares, the spline, anything). The model is tied to /repo by `harness/c20.py`.

Clauses of the property and where they are:

* exact hit returns that instance                  `hit_returns_instance` (pairwise distinct abscissae),
                                                   `hit_returns_last_partial` (any series)
* every float parameter is the interpolant         `float_parameters_interpolated` (+ `walk_reaches_every_addressable_float`)
* exact for linear data, inside and outside range  `lsq_exact_on_linear`, `linear_trend_reproduced`
* the variable equals the requested value          `variable_equals_requested`, `variable_equals_requested_on_hit`;
                                                   pinned commit: `variable_partial_when_flag_off`,
                                                   `variable_refuted_when_flag_off`
* non-float attributes                              `other_attributes_from_first_instance`
* order independence                               `order_independent` (pairwise distinct abscissae);
                                                   `order_refuted_for_duplicate_abscissa`
* inputs unmodified                                the model is purely functional (nothing to state);
                                                   checked on the real objects by the harness
* known findings (the model mirrors the code)      `tuple_members_refuted`, `list_built_instance_refuted`,
                                                   `dict_attribute_refuted`
-/

namespace AF.C20
open AF.Interp

/-- **Known point.** With pairwise distinct abscissae, a query at the abscissa of one of the
instances returns exactly that instance (whatever `_interpolate` is). -/
theorem hit_returns_instance (cfg : Cfg) (f) (insts : List Val) (tp : IPath) (v : Rat)
    (ps : List (Rat × Val)) (i : Val)
    (hps : pairs tp insts = .ok ps) (hnd : (ps.map (·.1)).Nodup)
    (hi : i ∈ insts) (ht : tOf tp i = .ok v) :
    getitem cfg f insts tp v = .ok i :=
  getitem_hit cfg f hps
    (lookupLast_of_mem_nodup hnd ((mem_pairs_iff hps).mpr ⟨hi, ht⟩))

/-- Without the distinctness guard: some instance of the series with that abscissa is returned
(the last one supplied — see `order_refuted_for_duplicate_abscissa`). -/
theorem hit_returns_last_partial (cfg : Cfg) (f) (insts : List Val) (tp : IPath) (v : Rat)
    (ps : List (Rat × Val)) (hps : pairs tp insts = .ok ps)
    (hex : ∃ i ∈ insts, tOf tp i = .ok v) :
    ∃ j ∈ insts, tOf tp j = .ok v ∧ getitem cfg f insts tp v = .ok j := by
  obtain ⟨i, hi, ht⟩ := hex
  obtain ⟨j, hj⟩ := lookupLast_isSome_of_key (List.mem_map.mpr ⟨(v, i), (mem_pairs_iff hps).mpr ⟨hi, ht⟩, rfl⟩)
  obtain ⟨hjm, hjt⟩ := (mem_pairs_iff hps).mp (lookupLast_mem hj)
  exact ⟨j, hjm, hjt, getitem_hit cfg f hps hj⟩

/-- The walk visits every float that attribute access / list indexing can address. -/
theorem walk_reaches_every_addressable_float (x : Val) (p : IPath) (a : Rat)
    (h : getPath x p = some (.num a)) : p ∈ floatPaths x :=
  walk_complete h

/-- **Every floating-point parameter is the interpolant of that parameter across the series.**
For a query that is not an exact hit, at every addressable float `p` of the first instance (other
than the interpolation variable itself when that is overwritten) the result holds
`f xs ys v`, where `xs` are the distinct abscissae in increasing order and `ys` the values at `p`
of the instances with these abscissae. -/
theorem float_parameters_interpolated (cfg : Cfg) (f) (tmpl : Val) (rest : List Val) (tp : IPath)
    (v : Rat) (ps : List (Rat × Val)) (r : Val)
    (hps : pairs tp (tmpl :: rest) = .ok ps) (hl : lookupLast v ps = none) (hA : Addressable tmpl)
    (h : getitem cfg f (tmpl :: rest) tp v = .ok r)
    (p : IPath) (a : Rat) (hp : getPath tmpl p = some (.num a))
    (hne : p ≠ tp ∨ cfg.setsVariable = false) :
    ∃ ys val, seriesAt ps p (sortedKeys (ps.map (·.1))) = .ok ys ∧
      f (sortedKeys (ps.map (·.1))) ys v = .ok val ∧ getPath r p = some (.num val) :=
  (miss_structure hps hl hA h).1 p a hp hne

/-- Everything else that can be addressed and is not a float (ints, strings, tuples, dicts,
list-built instances — values the walk does not replace) is that of the *first* instance supplied. -/
theorem other_attributes_from_first_instance (cfg : Cfg) (f) (tmpl : Val) (rest : List Val)
    (tp : IPath) (v : Rat) (ps : List (Rat × Val)) (r : Val)
    (hps : pairs tp (tmpl :: rest) = .ok ps) (hl : lookupLast v ps = none) (hA : Addressable tmpl)
    (h : getitem cfg f (tmpl :: rest) tp v = .ok r)
    (q : IPath) (y : Val) (hq : getPath tmpl q = some y) (hay : Atomic y) (hnn : ∀ a, y ≠ .num a)
    (hne : q ≠ tp ∨ cfg.setsVariable = false) :
    getPath r q = some y :=
  (miss_structure hps hl hA h).2 q y hq hay hnn hne

/-- **Least squares is exact on linear data** (any `v`, inside or outside the sampled range),
as soon as two abscissae differ. -/
theorem lsq_exact_on_linear (a b v : Rat) (xs : List Rat) (hs : xs.Pairwise (· < ·))
    (h2 : 2 ≤ xs.length) : lsq xs (xs.map (fun x => a * x + b)) v = .ok (a * v + b) :=
  match xs, hs, h2 with
  | x :: y :: _, hs, _ =>
    have hxy : x < y := (List.pairwise_cons.mp hs).1 y List.mem_cons_self
    lsq_linear a b v _ (Rat.ne_of_gt (denom_pos _
      ⟨x, List.mem_cons_self, y, List.mem_cons_of_mem _ List.mem_cons_self, Rat.ne_of_lt hxy⟩))

/-- The same for abscissae in any order, with repetitions, as long as two of them differ (so a
regression that does not sort or deduplicate first is exact on linear data too). -/
theorem lsq_exact_on_linear_any_order (a b v : Rat) (xs : List Rat)
    (h2 : ∃ x ∈ xs, ∃ y ∈ xs, x ≠ y) : lsq xs (xs.map (fun x => a * x + b)) v = .ok (a * v + b) :=
  lsq_linear a b v xs (Rat.ne_of_gt (denom_pos xs h2))

/-- **Linear trends are reproduced.** If every instance holds `a·t + b` at `p` (t its abscissa) and
at least two abscissae differ, the `LinearInterpolator` result holds `a·v + b` at `p`. -/
theorem linear_trend_reproduced (cfg : Cfg) (tmpl : Val) (rest : List Val) (tp : IPath)
    (v : Rat) (ps : List (Rat × Val)) (r : Val)
    (hps : pairs tp (tmpl :: rest) = .ok ps) (hl : lookupLast v ps = none) (hA : Addressable tmpl)
    (h : getitem cfg lsq (tmpl :: rest) tp v = .ok r)
    (p : IPath) (a0 : Rat) (hp : getPath tmpl p = some (.num a0))
    (hne : p ≠ tp ∨ cfg.setsVariable = false)
    (a b : Rat) (hlin : ∀ e ∈ ps, numOf (getPath e.2 p) = .ok (a * e.1 + b))
    (h2 : 2 ≤ (sortedKeys (ps.map (·.1))).length) :
    getPath r p = some (.num (a * v + b)) := by
  obtain ⟨ys, val, hs, hf, hg⟩ :=
    float_parameters_interpolated cfg lsq tmpl rest tp v ps r hps hl hA h p a0 hp hne
  rw [seriesAt_linear ps p a b hlin _ (fun _ => mem_sortedKeys.mp)] at hs
  cases hs
  rw [lsq_exact_on_linear a b v _ (sorted_sortedKeys _) h2] at hf
  cases hf
  exact hg

/-- **The interpolation variable equals the requested value** (repaired behaviour,
`fixes/C20-interpolation-variable-assigned.patch`), for every `_interpolate`, whether the variable
is held as a float or as an int. -/
theorem variable_equals_requested (cfg : Cfg) (f) (tmpl : Val) (rest : List Val) (tp : IPath)
    (v : Rat) (ps : List (Rat × Val)) (r : Val) (hflag : cfg.setsVariable = true)
    (hps : pairs tp (tmpl :: rest) = .ok ps) (hl : lookupLast v ps = none)
    (h : getitem cfg f (tmpl :: rest) tp v = .ok r) :
    getPath r tp = some (.num v) :=
  getitem_miss_variable hflag hps hl h

/-- … and on an exact hit the returned instance has the requested abscissa. -/
theorem variable_equals_requested_on_hit (cfg : Cfg) (f) (insts : List Val) (tp : IPath) (v : Rat)
    (ps : List (Rat × Val)) (i : Val) (hps : pairs tp insts = .ok ps)
    (hl : lookupLast v ps = some i) :
    getitem cfg f insts tp v = .ok i ∧ tOf tp i = .ok v :=
  ⟨getitem_hit cfg f hps hl,
   ((mem_pairs_iff hps).mp (lookupLast_mem hl)).2⟩

/-- Pinned commit (the final assignment is discarded): for the `LinearInterpolator`, when the
variable is held as a *float* it is the regression of `t` on `t`, which over exact numbers is the
requested value — in floating point only up to rounding. -/
theorem variable_partial_when_flag_off (cfg : Cfg) (tmpl : Val) (rest : List Val) (tp : IPath)
    (v : Rat) (ps : List (Rat × Val)) (r : Val) (hflag : cfg.setsVariable = false)
    (hps : pairs tp (tmpl :: rest) = .ok ps) (hl : lookupLast v ps = none) (hA : Addressable tmpl)
    (h : getitem cfg lsq (tmpl :: rest) tp v = .ok r)
    (a0 : Rat) (hfloat : getPath tmpl tp = some (.num a0))
    (h2 : 2 ≤ (sortedKeys (ps.map (·.1))).length) :
    getPath r tp = some (.num v) := by
  have hlin : ∀ e ∈ ps, numOf (getPath e.2 tp) = .ok (1 * e.1 + 0) := by
    intro e he
    rw [Rat.one_mul, Rat.add_zero]
    exact (pairs_spec hps).2 e he
  have := linear_trend_reproduced cfg tmpl rest tp v ps r hps hl hA h tp a0 hfloat (Or.inr hflag)
    1 0 hlin h2
  rwa [Rat.one_mul, Rat.add_zero] at this

def gaussian (c : Rat) : Val := .obj "Gaussian" [("centre", .num c), ("sigma", .num (2 * c + 1))]

/-- `t = 1, 2, 3` held as ints, supplied out of order; `centre = t − 1` -/
def intSeries : List Val :=
  [.obj "ModelInstance" [("t", .int 2), ("g", gaussian 1)],
   .obj "ModelInstance" [("t", .int 1), ("g", gaussian 0)],
   .obj "ModelInstance" [("t", .int 3), ("g", gaussian 2)]]

/-- Pinned commit refuted: with the variable held as an int the result keeps the first instance's
value (`t = 2` for a query at `3/2`). -/
theorem variable_refuted_when_flag_off :
    valueAt (getitem { setsVariable := false } lsq intSeries [.s "t"] (3 / 2)) [.s "t"] = some 2 ∧
    valueAt (getitem { setsVariable := true } lsq intSeries [.s "t"] (3 / 2)) [.s "t"] = some (3 / 2) := by
  decide +kernel

/-- **Order independence.** With pairwise distinct abscissae, two orders of the same series give
the same value at every float parameter (present in both first instances) — for every
`_interpolate`, exact hit or not. -/
theorem order_independent (cfg : Cfg) (f) (tmpl tmpl' : Val) (rest rest' : List Val) (tp : IPath)
    (v : Rat) (ps : List (Rat × Val)) (r r' : Val)
    (hperm : (tmpl :: rest).Perm (tmpl' :: rest'))
    (hps : pairs tp (tmpl :: rest) = .ok ps) (hnd : (ps.map (·.1)).Nodup)
    (hA : Addressable tmpl) (hA' : Addressable tmpl')
    (h : getitem cfg f (tmpl :: rest) tp v = .ok r)
    (h' : getitem cfg f (tmpl' :: rest') tp v = .ok r')
    (p : IPath) (a a' : Rat) (hp : getPath tmpl p = some (.num a))
    (hp' : getPath tmpl' p = some (.num a')) :
    getPath r p = getPath r' p :=
  getitem_float_congr (fun _ => hperm.mem_iff) hps hnd hA hA' h h' hp hp'

/-! ### known findings: the unchanged code, mirrored by the model, violates the sentence here -/

/-- two instances share the abscissa `1` and differ in `centre` -/
def dupSeries : List Val :=
  [.obj "ModelInstance" [("t", .num 1), ("g", gaussian 0)],
   .obj "ModelInstance" [("t", .num 1), ("g", gaussian 5)],
   .obj "ModelInstance" [("t", .num 2), ("g", gaussian 1)]]

def dupSeriesSwapped : List Val :=
  [.obj "ModelInstance" [("t", .num 1), ("g", gaussian 5)],
   .obj "ModelInstance" [("t", .num 1), ("g", gaussian 0)],
   .obj "ModelInstance" [("t", .num 2), ("g", gaussian 1)]]

/-- Order independence refuted outside the guard of `order_independent`: with a duplicated
abscissa the last instance supplied wins, for an interpolated value and for an exact hit. -/
theorem order_refuted_for_duplicate_abscissa :
    dupSeries.Perm dupSeriesSwapped ∧
    valueAt (getitem {} lsq dupSeries [.s "t"] (3 / 2)) [.s "g", .s "centre"] = some 3 ∧
    valueAt (getitem {} lsq dupSeriesSwapped [.s "t"] (3 / 2)) [.s "g", .s "centre"] = some (1 / 2) ∧
    valueAt (getitem {} lsq dupSeries [.s "t"] 1) [.s "g", .s "centre"] = some 5 ∧
    valueAt (getitem {} lsq dupSeriesSwapped [.s "t"] 1) [.s "g", .s "centre"] = some 0 := by
  refine ⟨List.Perm.swap _ _ _, ?_⟩
  decide +kernel

def tupleSeries : List Val :=
  [.obj "ModelInstance" [("t", .num 1), ("q", .obj "T2" [("pos", .tup [.num 0, .num 2]), ("r", .num 3)])],
   .obj "ModelInstance" [("t", .num 2), ("q", .obj "T2" [("pos", .tup [.num 1, .num 4]), ("r", .num 6)])],
   .obj "ModelInstance" [("t", .num 3), ("q", .obj "T2" [("pos", .tup [.num 2, .num 6]), ("r", .num 9)])]]

/-- Known finding: floats inside a tuple attribute are not interpolated (the first instance's
tuple is carried over), while the sibling float is. Data linear in `t`: `pos[0] = t − 1`, `r = 3t`. -/
theorem tuple_members_refuted :
    valueAtAny (getitem {} lsq tupleSeries [.s "t"] (3 / 2)) [.s "q", .s "pos", .i 0] = some 0 ∧
    valueAtAny (getitem {} lsq tupleSeries [.s "t"] (3 / 2)) [.s "q", .s "r"] = some (9 / 2) := by
  decide +kernel

def listBuiltSeries : List Val :=
  [.obj "ModelInstance" [("t", .num 1), ("items", .ilist [.num 2, gaussian 1])],
   .obj "ModelInstance" [("t", .num 2), ("items", .ilist [.num 4, gaussian 2])],
   .obj "ModelInstance" [("t", .num 3), ("items", .ilist [.num 6, gaussian 3])]]

/-- Known finding: nothing inside a `ModelInstance` built from a list is interpolated. -/
theorem list_built_instance_refuted :
    valueAtAny (getitem {} lsq listBuiltSeries [.s "t"] (3 / 2)) [.s "items", .i 0] = some 2 ∧
    valueAtAny (getitem {} lsq listBuiltSeries [.s "t"] (3 / 2)) [.s "items", .i 1, .s "centre"] = some 1 := by
  decide +kernel

def dictSeries : List Val :=
  [.obj "ModelInstance" [("t", .num 1), ("extra", .dict [("u", .num 2)])],
   .obj "ModelInstance" [("t", .num 2), ("extra", .dict [("u", .num 4)])]]

/-- Known finding: a float inside a `dict` attribute makes the interpolation raise (the guard
`Addressable` of `float_parameters_interpolated` fails exactly here). -/
theorem dict_attribute_refuted :
    ¬ Addressable (dictSeries.head!) ∧
    (match getitem {} lsq dictSeries [.s "t"] (3 / 2) with | .error .path => true | _ => false) = true := by
  decide +kernel

/-! ### non-vacuity: a concrete series meeting every hypothesis of the main theorems -/

/-- nested objects, a list, an opaque attribute, unsorted abscissae `2, 0, 5`;
`centre = 3t − 1`, `items[0] = −t + 4` (linear), `sigma = t²` (not linear) -/
def series : List Val :=
  [.obj "ModelInstance" [("label", .opaque "b"), ("t", .num 2),
      ("g", .obj "G" [("centre", .num 5), ("sigma", .num 4)]), ("items", .list [.num 2, .int 7])],
   .obj "ModelInstance" [("label", .opaque "a"), ("t", .num 0),
      ("g", .obj "G" [("centre", .num (-1)), ("sigma", .num 0)]), ("items", .list [.num 4, .int 7])],
   .obj "ModelInstance" [("label", .opaque "c"), ("t", .num 5),
      ("g", .obj "G" [("centre", .num 14), ("sigma", .num 25)]), ("items", .list [.num (-1), .int 7])]]

example : Addressable series.head! := by decide +kernel
example : (pairs [.s "t"] series).toOption.map (fun ps => ps.map (·.1)) = some [2, 0, 5] := by decide +kernel
example : ([2, 0, 5] : List Rat).Nodup := by decide +kernel
example : sortedKeys [2, 0, 5] = [0, 2, 5] := by decide +kernel
example : (lsq [2, 0, 5, 2] ([2, 0, 5, 2].map (fun x => 3 * x + (-1))) 9).toOption = some 26 := by decide +kernel
/-- inside the range, outside the range, on a sample; linear data exact, the variable set -/
example : valueAt (getitem {} lsq series [.s "t"] (7 / 2)) [.s "g", .s "centre"] = some (19 / 2) ∧
    valueAt (getitem {} lsq series [.s "t"] 9) [.s "items", .i 0] = some (-5) ∧
    valueAt (getitem {} lsq series [.s "t"] 9) [.s "t"] = some 9 ∧
    valueAt (getitem {} lsq series [.s "t"] 0) [.s "g", .s "sigma"] = some 0 ∧
    valueAt (getitem {} lsq series [.s "t"] 1) [.s "g", .s "sigma"] ≠ some 1 := by decide +kernel
/-- the interpolation variable may be nested (`g.centre`), and the walk is complete -/
example : valueAt (getitem {} lsq series [.s "g", .s "centre"] 2) [.s "t"] = some 1 ∧
    valueAt (getitem {} lsq series [.s "g", .s "centre"] 2) [.s "g", .s "centre"] = some 2 := by decide +kernel
example : valueAt (getitem {} lsq series [.s "t"] 9) [.s "items", .i 1] = some 7 := by decide +kernel
example : floatPaths series.head! =
    [[.s "t"], [.s "g", .s "centre"], [.s "g", .s "sigma"], [.s "items", .i 0]] := by decide +kernel

end AF.C20

/-!
## CovarianceInterpolator: the plumbing (`AFModel/InterpCov.lean`, request kind `cov`)

What is gathered and where it is put; the numeric kernels (per-sample `numpy.cov`, the matrix inverse,
the fit of the relationships) are data.

* x sorted, x / y a rearrangement of the samples        `cov_x_sorted`, `cov_x_perm`, `cov_y_layout`
* order independence of x and y                         `cov_xy_order_independent` (pairwise distinct abscissae)
* where the covariance blocks are put                   `cov_matrix_rows`, `cov_matrix_entry_inside`,
                                                        `cov_matrix_entry_left`, `cov_matrix_entry_right`
* blocks follow the order of x / y                      `cov_blocks_order_independent` (repaired,
                                                        `fixes/C20-covariance-blocks-sorted.patch`),
                                                        `cov_blocks_partial_when_flag_off`,
                                                        `cov_blocks_refuted_when_flag_off`
* the variable equals the requested value               `cov_variable_equals_requested` (repaired,
                                                        `fixes/C20-covariance-variable-assigned.patch`),
                                                        `cov_variable_refuted_when_flag_off`
* the template model is the first best sample           `cov_single_model_is_first_maximum`
-/

namespace AF.C20
open AF.InterpCov

/-- `analysis.x` is in increasing order … -/
theorem cov_x_sorted (ss : List Sample) : (covX ss).Pairwise (· ≤ ·) := by
  unfold covX
  rw [List.pairwise_map]
  exact sortByT_sorted ss

/-- … and is a rearrangement of the abscissae of the samples supplied. -/
theorem cov_x_perm (ss : List Sample) : (covX ss).Perm (ss.map (·.t)) :=
  (sortByT_perm ss).map _

/-- **What is gathered.** With `k` parameters per sample, entry `i*k + a` of `analysis.y` is parameter
`a` of the sample with the `i`-th smallest abscissa (the sample whose abscissa is `x[i]`). -/
theorem cov_y_layout (ss : List Sample) (k : Nat) (hk : ∀ s ∈ ss, s.params.length = k)
    (i a : Nat) (ha : a < k) :
    (covY ss)[i * k + a]? = ((sortByT ss)[i]?).bind (fun s => s.params[a]?) ∧
    (covX ss)[i]? = ((sortByT ss)[i]?).map (·.t) := by
  constructor
  · unfold covY
    rw [getElem?_flatten_uniform k _ i a ?_ ha]
    · rw [List.getElem?_map]
      cases (sortByT ss)[i]? <;> rfl
    · intro l hl
      obtain ⟨s, hs, rfl⟩ := List.mem_map.mp hl
      exact hk s ((sortByT_perm ss).mem_iff.mp hs)
  · unfold covX
    rw [List.getElem?_map]

/-- **Order independence of what is fitted (x, y).** With pairwise distinct abscissae two orders of
the same samples give the same `x` and `y`. -/
theorem cov_xy_order_independent (ss ss' : List Sample) (hp : ss.Perm ss')
    (hnd : (ss.map (·.t)).Nodup) : covX ss = covX ss' ∧ covY ss = covY ss' := by
  unfold covX covY
  rw [sortByT_of_perm hp hnd]
  exact ⟨rfl, rfl⟩

/-- **Where the blocks are put.** Row `i*k + a` of the block-diagonal matrix is row `a` of block `i`
behind `i*k` zeros and before `(n-i-1)*k` zeros. -/
theorem cov_matrix_rows (k : Nat) (ms : List (List (List Rat))) (hk : ∀ m ∈ ms, m.length = k)
    (i a : Nat) (ha : a < k) :
    (blockDiag k ms)[i * k + a]? =
      ((ms[i]?).bind (fun m => m[a]?)).map (padRow k ms.length i) := by
  unfold blockDiag
  rw [blockRows_eq_flatten, getElem?_flatten_uniform k _ i a ?_ ha, List.getElem?_mapIdx]
  · cases ms[i]? with
    | none => rfl
    | some m => simp only [Option.map_some, Option.bind_some, Nat.zero_add, List.getElem?_map]
  · intro l hl
    obtain ⟨j, hj, rfl⟩ := List.mem_mapIdx.mp hl
    rw [List.length_map]
    exact hk _ (List.getElem_mem hj)

/-- inside block `i`: the entry of the sample's covariance matrix -/
theorem cov_matrix_entry_inside (k : Nat) (ms : List (List (List Rat))) (hk : ∀ m ∈ ms, m.length = k)
    (i a c : Nat) (m : List (List Rat)) (row : List Rat) (ha : a < k)
    (hm : ms[i]? = some m) (hr : m[a]? = some row) (hc : c < row.length) :
    entry (blockDiag k ms) (i * k + a) (i * k + c) = entry m a c := by
  unfold entry
  rw [cov_matrix_rows k ms hk i a ha, hm]
  simp only [Option.bind_some]
  rw [hr]
  simp only [Option.map_some]
  rw [padRow_inside k ms.length i row c hc]

/-- left of block `i`: zero -/
theorem cov_matrix_entry_left (k : Nat) (ms : List (List (List Rat))) (hk : ∀ m ∈ ms, m.length = k)
    (i a j : Nat) (ha : a < k) (hj : j < i * k) :
    entry (blockDiag k ms) (i * k + a) j = 0 := by
  unfold entry
  rw [cov_matrix_rows k ms hk i a ha]
  cases hm : (ms[i]?).bind (fun m => m[a]?) with
  | none => rfl
  | some row =>
    simp only [Option.map_some]
    rw [padRow_before k ms.length i row j hj]
    rfl

/-- right of block `i`: zero -/
theorem cov_matrix_entry_right (k : Nat) (ms : List (List (List Rat))) (hk : ∀ m ∈ ms, m.length = k)
    (i a j : Nat) (m : List (List Rat)) (row : List Rat) (ha : a < k)
    (hm : ms[i]? = some m) (hr : m[a]? = some row) (hj : i * k + row.length ≤ j) :
    entry (blockDiag k ms) (i * k + a) j = 0 := by
  unfold entry
  rw [cov_matrix_rows k ms hk i a ha, hm]
  simp only [Option.bind_some]
  rw [hr]
  simp only [Option.map_some]
  exact padRow_after k ms.length i row j hj

/-- **Blocks follow x / y** (repaired behaviour, `fixes/C20-covariance-blocks-sorted.patch`): block `i`
is the covariance matrix of the sample whose parameters are `y[i*k ..]`, and with pairwise distinct
abscissae the whole matrix does not depend on the order of supply. -/
theorem cov_blocks_order_independent (cfg : Cfg) (hflag : cfg.blocksSorted = true) (k : Nat)
    (ss ss' : List Sample) (hp : ss.Perm ss') (hnd : (ss.map (·.t)).Nodup) :
    covMatrix cfg k ss = covMatrix cfg k ss' ∧
    covMatrix cfg k ss = blockDiag k ((sortByT ss).map (·.cov)) := by
  have e := sortByT_of_perm hp hnd
  unfold covMatrix
  simp [hflag, e]

/-- Unchanged code (blocks in the order of supply): the same holds only for samples supplied in
increasing order of the interpolation variable. -/
theorem cov_blocks_partial_when_flag_off (cfg : Cfg) (k : Nat) (ss : List Sample)
    (hs : ss.Pairwise (fun a b => a.t ≤ b.t)) :
    covMatrix cfg k ss = blockDiag k ((sortByT ss).map (·.cov)) := by
  unfold covMatrix
  rw [sortByT_of_sorted ss hs]
  split <;> rfl

/-- two samples supplied in decreasing order of `t`, with different covariance matrices -/
def covSeries : List Sample :=
  [{ t := 2, params := [20, 21], cov := [[1, 0], [0, 1]], logl := -1 },
   { t := 1, params := [10, 11], cov := [[9, 3], [3, 9]], logl := -2 }]

/-- Refuted for the unchanged code: `y` starts with the parameters of the sample with `t = 1` while the
first block is the covariance of the sample with `t = 2`; supplying the same samples in the other
order gives the same `x`, `y` and another matrix. With the repair both orders agree. -/
theorem cov_blocks_refuted_when_flag_off :
    covX covSeries = [1, 2] ∧ covY covSeries = [10, 11, 20, 21] ∧
    entry (covMatrix {} 2 covSeries) 0 0 = 1 ∧
    entry (covMatrix {} 2 covSeries.reverse) 0 0 = 9 ∧
    covY covSeries.reverse = covY covSeries ∧
    entry (covMatrix { blocksSorted := true } 2 covSeries) 0 0 = 9 ∧
    covMatrix { blocksSorted := true } 2 covSeries = covMatrix { blocksSorted := true } 2 covSeries.reverse := by
  decide +kernel

/-- **The interpolation variable equals the requested value** (repaired behaviour,
`fixes/C20-covariance-variable-assigned.patch`). -/
theorem cov_variable_equals_requested (cfg : Cfg) (hflag : cfg.setsVariable = true) (held v : Rat) :
    covVariable cfg held v = v := by
  unfold covVariable
  rw [hflag]
  rfl

/-- Refuted for the unchanged code: the answer keeps what the template model holds. -/
theorem cov_variable_refuted_when_flag_off : covVariable {} 2 (1 / 2) = 2 ∧ (2 : Rat) ≠ 1 / 2 := by
  decide +kernel

/-- **The template model** (`_single_model`) is that of the first sample attaining the highest
likelihood: nothing is higher, everything before is strictly lower. -/
theorem cov_single_model_is_first_maximum (l : List Rat) (r : Nat) (h : argmaxFirst l = some r) :
    ∃ rv, l[r]? = some rv ∧ ∀ j x, l[j]? = some x → x ≤ rv ∧ (j < r → x < rv) := by
  cases l with
  | nil => cases h
  | cons x rest =>
    cases h
    exact argmaxFrom_spec rest [x] 0 x (FirstMax.singleton x)

/-! ### non-vacuity -/

/-- three samples out of order, two parameters each -/
def covSeries3 : List Sample :=
  [{ t := 2, params := [20, 21], cov := [[1, 0], [0, 1]], logl := -1 },
   { t := 0, params := [0, 1], cov := [[4, 2], [2, 4]], logl := -1 },
   { t := 1, params := [10, 11], cov := [[9, 3], [3, 9]], logl := -2 }]

example : (covSeries3.map (·.t)).Nodup ∧ ∀ s ∈ covSeries3, s.params.length = 2 := by decide +kernel
example : covX covSeries3 = [0, 1, 2] ∧ covY covSeries3 = [0, 1, 10, 11, 20, 21] := by decide +kernel
example : ∀ m ∈ covSeries3.map (·.cov), m.length = 2 := by decide +kernel
example : covMatrix { blocksSorted := true } 2 covSeries3 =
    [[4, 2, 0, 0, 0, 0], [2, 4, 0, 0, 0, 0], [0, 0, 9, 3, 0, 0], [0, 0, 3, 9, 0, 0],
     [0, 0, 0, 0, 1, 0], [0, 0, 0, 0, 0, 1]] := by decide +kernel
example : argmaxFirst (covSeries3.map (·.logl)) = some 0 ∧ argmaxFirst [-3, -1, -2, -1] = some 1 := by
  decide +kernel
example : covGet [(2, 1), (-1, 0)] (1 / 2) = [2, -1 / 2] := by decide +kernel
example : ([{ t := 0, params := [], cov := [], logl := 0 }, { t := 1, params := [], cov := [], logl := 0 }] :
    List Sample).Pairwise (fun a b => a.t ≤ b.t) := by decide +kernel

end AF.C20
